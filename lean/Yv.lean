import Yv.Proofs.ListFacts
import Yv.Abs.Sound
import Yv.Abs.Complete
import Yv.Abs.Lalr
import Yv.Abs.Prefix
import Yv.Abs.CertSets
import Yv.Proofs.PackCore
import Yv.Proofs.ArrStack
import Yv.Model.YLex
import Yv.Proofs.YLexRel
import Yv.Proofs.YLexTotal
import Yv.Model.YParse
import Yv.Model.Core
import Yv.Model.PackX
import Yv.Model.Drv
import Yv.Gen.Resolve
import Yv.Props.C04
import Yv.Cert.Auto
import Yv.Cert.Complete
import Yv.Cert.Canon
import Yv.Model.Drive
import Yv.Model.XDrv
import Yv.Model.Visitor
import Yv.Model.ArrDrive
import Yv.Proofs.CertFacts
import Yv.Proofs.DStep
import Yv.Proofs.DSound
import Yv.Proofs.DTrace
import Yv.Proofs.DValue
import Yv.Proofs.CanonFacts
import Yv.Proofs.ArrRefine
import Yv.Gen.Facts
import Yv.Props.C01
import Yv.Props.C06
import Yv.Props.C07
import Yv.Props.C08
import Yv.Props.C09
import Yv.Props.C15
import Yv.Props.C17
import Yv.Props.C11
import Yv.Props.C12
import Yv.Model.PackA
import Yv.Props.C05
import Yv.Cert.CompleteX
import Yv.Proofs.DComplete
import Yv.Props.C02
import Yv.Cert.LAOracle
import Yv.Proofs.LAOracleFacts
import Yv.Props.C03
import Yv.Proofs.YParseTotal
import Yv.Props.C13
import Yv.Props.C19
import Yv.Proofs.YLexLayout
import Yv.Props.C10
import Yv.Proofs.DPrefix
import Yv.Props.C06b
import Yv.Props.C14
import Yv.Model.Views
import Yv.Proofs.LineFacts
import Yv.Props.C18
import Yv.Model.LR0L
import Yv.Proofs.LR0LFacts
import Yv.Props.C09gen
import Yv.Model.SplitA
import Yv.Props.C05b
import Yv.Model.Listing
import Yv.Model.ListingDrv
import Yv.Props.C18b
import Yv.Props.C18c
import Yv.Gen.Action
import Yv.Props.C05c
import Yv.Model.GoAst
import Yv.Model.GoSem
import Yv.Gen.Driver
import Yv.Proofs.SemAttr
import Yv.Props.C08b
import Yv.Model.Subst
import Yv.Model.Emit
import Yv.Model.EmitRead
import Yv.Proofs.EmitFacts
import Yv.Props.C11b
import Yv.Props.C07b
import Yv.Model.DP
import Yv.Props.C03b
import Yv.Model.GenTab
import Yv.Proofs.GenTabFacts
import Yv.Proofs.GenTabCore
import Yv.Proofs.PipelineFacts
import Yv.Proofs.ResolveTie
import Yv.Props.C01gen
import Yv.Props.C04gen
import Yv.Model.Digraph
import Yv.Proofs.DigraphFacts
import Yv.Props.C03c
import Yv.Proofs.EndToEndFacts
import Yv.Props.EndToEnd
import Yv.Model.Term
import Yv.Proofs.TermFacts
import Yv.Props.C06c
import Yv.Props.EndToEndTerm
import Yv.Model.TsAst
import Yv.Model.TsSem
import Yv.Gen.TsDriver
import Yv.Props.C08c
import Yv.Props.EndToEndTs
