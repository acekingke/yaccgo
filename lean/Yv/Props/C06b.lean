import Yv.Proofs.DPrefix
import Yv.Props.C06
import Yv.Props.C09
/-! # C06, second half — a non-sentence is rejected at the first token that cannot continue any sentence

For every grammar, automaton and dense table (given **as data**) that pass the decidable
certificates `gramWF`, `certA`, `certT`, `certCanon` (the automaton is the canonical LR(0)
collection, C09) and `prodOK` (every grammar symbol is productive, C12), for every input and every
configuration the concrete driver `Y.D.step` reaches from the initial one:

* `C06_prefix` / `C06_prefix_gen`: the tokens **shifted so far** are a prefix of a sentence — there
  is a terminal string `z` such that the start symbol `S₀` (`rules[0] = start' → S₀`) derives
  `shifted ++ z` (small-step `Derives`, resp. the forest relation `GenL` used by C02);
* `C06_first_bad_token`: if the next token `a` is such that `shifted ++ [a]` is a prefix of no
  sentence, then whatever the driver does from there on (reductions), it never shifts `a`: the
  remaining input stays the same;
* `C06_error_prefix`: when a run ends in a syntax error, the consumed tokens are a prefix of a
  sentence and exactly one more token than those was requested from the lexer (with `C06_safe`:
  "error at the first bad token, nothing after it requested"). -/
namespace Y.Props
open Y Y.D

/-- **C06 (viable prefix), token level, forest form.**  `w` splits into the consumed tokens and the
    remaining input, and the consumed symbols extend by a terminal string `z` to a sentence. -/
theorem C06_prefix_gen {V : Type} (G : Grammar) (nS : Nat) (A : Auto) (T : Dense)
    (sem : Nat → List V → V) (eofVal bv : V)
    (hG : gramWF G nS = true) (hA : certA G A = true) (hT : certT G nS A T = true)
    (hK : certCanon G A = true) (hP : prodOK G nS = true)
    (w : List (Sym × V)) (hw : ∀ t ∈ w, t.1 ≤ G.nT ∧ t.1 ≠ 1)
    (c : D.Cfg V) (hreach : Reach (dparams G T A.n sem eofVal) (init bv w) c) :
    ∃ (shifted : List (Sym × V)) (z : List Sym), w = shifted ++ c.rest ∧ (∀ t ∈ z, G.isT t = true) ∧
      ∃ S₀, G.rules[0]? = some ⟨0, [S₀]⟩ ∧ Derives G [S₀] (shifted.map Prod.fst ++ z) ∧
        GenL G [S₀] (shifted.map Prod.fst ++ z) :=
  invV_prefix hG (certA_ok hA) (certCanon_ok hK) (prodOK_rhsProductive hP)
    (reach_invV sem eofVal (gramWF_ok hG) (certA_ok hA) (certT_ok hT)
      (init_invV (A := A) sem bv w hw) hreach)

/-- **C06 (viable prefix).**  Whatever the driver has shifted so far can be completed to a
    sentence. -/
theorem C06_prefix {V : Type} (G : Grammar) (nS : Nat) (A : Auto) (T : Dense)
    (sem : Nat → List V → V) (eofVal bv : V)
    (hG : gramWF G nS = true) (hA : certA G A = true) (hT : certT G nS A T = true)
    (hK : certCanon G A = true) (hP : prodOK G nS = true)
    (w : List (Sym × V)) (hw : ∀ t ∈ w, t.1 ≤ G.nT ∧ t.1 ≠ 1)
    (c : D.Cfg V) (hreach : Reach (dparams G T A.n sem eofVal) (init bv w) c) :
    ∃ shifted z, w.map Prod.fst = shifted ++ c.rest.map Prod.fst ∧ (∀ t ∈ z, G.isT t = true) ∧
      ∃ S₀, G.rules[0]? = some ⟨0, [S₀]⟩ ∧ Derives G [S₀] (shifted ++ z) := by
  obtain ⟨shifted, z, hsplit, hz, S₀, h0, hder, _⟩ :=
    C06_prefix_gen G nS A T sem eofVal bv hG hA hT hK hP w hw c hreach
  refine ⟨shifted.map Prod.fst, z, ?_, hz, S₀, h0, hder⟩
  conv => lhs; rw [hsplit]
  exact List.map_append

/-- **C06 (first bad token).**  If the driver has consumed `shifted`, the next token is `a`, and
    `shifted ++ [a]` is a prefix of no sentence, then the driver never shifts `a`: in every
    configuration it reaches from there the remaining input is unchanged (it can only reduce, and
    then report the error — it cannot accept, by C01, nor crash, by `C06_safe`). -/
theorem C06_first_bad_token {V : Type} (G : Grammar) (nS : Nat) (A : Auto) (T : Dense)
    (sem : Nat → List V → V) (eofVal bv : V)
    (hG : gramWF G nS = true) (hA : certA G A = true) (hT : certT G nS A T = true)
    (hK : certCanon G A = true) (hP : prodOK G nS = true)
    (w : List (Sym × V)) (hw : ∀ t ∈ w, t.1 ≤ G.nT ∧ t.1 ≠ 1)
    (c : D.Cfg V) (hreach : Reach (dparams G T A.n sem eofVal) (init bv w) c)
    (shifted : List (Sym × V)) (a : Sym) (v : V) (rest' : List (Sym × V))
    (hsplit : w = shifted ++ (a, v) :: rest') (hrest : c.rest = (a, v) :: rest')
    (hbad : ¬ ∃ (z : List Sym) (S₀ : Sym), (∀ t ∈ z, G.isT t = true) ∧
        G.rules[0]? = some ⟨0, [S₀]⟩ ∧ GenL G [S₀] (shifted.map Prod.fst ++ a :: z))
    (c' : D.Cfg V) (hreach' : Reach (dparams G T A.n sem eofVal) c c') :
    c'.rest = c.rest := by
  obtain ⟨sh', z, hw', hz, S₀, h0, _, hgen⟩ :=
    C06_prefix_gen G nS A T sem eofVal bv hG hA hT hK hP w hw c' (Reach.trans hreach hreach')
  obtain ⟨u, hu⟩ := hreach'.rest_suffix
  cases u with
  | nil => exact hu.symm
  | cons x u' =>
    exfalso
    rw [hrest, List.cons_append] at hu
    injection hu with hx hr'
    subst hx
    have hsh : sh' = shifted ++ (a, v) :: u' := by
      apply List.append_cancel_right (bs := c'.rest)
      rw [← hw', hsplit, hr']
      simp only [List.append_assoc, List.cons_append]
    rw [hsh] at hgen
    simp only [List.map_append, List.map_cons, List.append_assoc, List.cons_append] at hgen
    refine hbad ⟨u'.map Prod.fst ++ z, S₀, ?_, h0, hgen⟩
    intro t ht
    exact hgen.terms t (List.mem_append_right _ (List.mem_cons_of_mem _ ht))

/-- **C06 (error report).**  When a run ends in a syntax error, the tokens consumed before it are a
    prefix of a sentence, and exactly one token more than those was requested from the lexer. -/
theorem C06_error_prefix {V : Type} (G : Grammar) (nS : Nat) (A : Auto) (T : Dense)
    (sem : Nat → List V → V) (eofVal bv : V)
    (hG : gramWF G nS = true) (hA : certA G A = true) (hT : certT G nS A T = true)
    (hK : certCanon G A = true) (hP : prodOK G nS = true)
    (w : List (Sym × V)) (hw : ∀ t ∈ w, t.1 ≤ G.nT ∧ t.1 ≠ 1) (fuel : Nat) (c' : D.Cfg V)
    (hrun : run (dparams G T A.n sem eofVal) fuel (init bv w) = .syntaxError c') :
    ∃ (shifted : List (Sym × V)) (z : List Sym), w = shifted ++ c'.rest ∧
      c'.req = shifted.length + 1 ∧ (∀ t ∈ z, G.isT t = true) ∧
      ∃ S₀, G.rules[0]? = some ⟨0, [S₀]⟩ ∧ GenL G [S₀] (shifted.map Prod.fst ++ z) := by
  obtain ⟨hreach, _⟩ := (run_end _ fuel _).2.1 c' hrun
  obtain ⟨shifted, z, hsplit, hz, S₀, h0, _, hgen⟩ :=
    C06_prefix_gen G nS A T sem eofVal bv hG hA hT hK hP w hw c' hreach
  have hcnt := (C06_safe G nS A T sem eofVal bv hG hA hT w hw fuel).2 c' hrun
  refine ⟨shifted, z, hsplit, ?_, hz, S₀, h0, hgen⟩
  have hl := congrArg List.length hsplit
  rw [List.length_append] at hl
  omega

/-! ## Non-vacuity: the example of C01/C09 (`S' → S ; S → a S | b`) passes all five certificates;
    on the non-sentence `a b b` the driver shifts `a b`, and reports the error on the second `b`
    having requested exactly three tokens. -/

example : gramWF exG 5 = true ∧ certA exG exA = true ∧ certT exG 5 exA exT = true ∧
    certCanon exG exA = true ∧ prodOK exG 5 = true :=
  ⟨exG_wf, exA_ok, exT_ok, exA_canon, by decide⟩

example : ∃ c', run (dparams (V := Unit) exG exT exA.n (fun _ _ => ()) ()) 20
      (init () [(2, ()), (3, ()), (3, ())]) = .syntaxError c' ∧ c'.rest = [(3, ())] ∧ c'.req = 3 :=
  ⟨_, rfl, rfl, rfl⟩

end Y.Props
