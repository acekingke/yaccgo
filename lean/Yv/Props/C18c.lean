import Yv.Props.C18b
import Yv.Model.ListingSets
/-! # C18 (text half, remaining sections) — the transition / direct-read / read / follow sections of
    `yaccgo debug` show exactly their entries

`setLineStr` / `followLineStr` / `trShiftStr` / `trReduceStr` (Yv/Model/ListingSets.lean) are the lines of the
sections `Show Direct Read SET`, `Show Reads SET`, `Show FollowSet SET` and `SHOW TRANS`.

Each section has one line per entry, and every kind of line determines what it prints (for a reduce
transition: the content of its rule); in the set and follow sections a line is therefore present iff its
entry is.  A line is read back from fixed positions, which is why few conditions on the
spellings are needed: the digits of the state end at the first `-` (sets) or `:` (transitions), a name with
`-->` ends at the first blank, every element of a set is closed by a blank and the closing ` ]` is cut from
the right.  The conditions that are needed are explicit hypotheses: injective spellings without blanks;
nonempty ones for the follow section (to tell `[]` from the one-element list of an empty name); and, to tell
a shift line from a reduce line, no spelling that is another one followed by `-->` (shown necessary by
`arrowNames` at the end). -/
namespace Y.Props
open Y

/-- `setStr` closes every name with a blank, `laStr` opens every name with one -/
theorem setStr_toList (names : Nat → String) (xs : List Sym) :
    ' ' :: (setStr names xs).toList = (laStr names xs).toList ++ [' '] := by
  induction xs with
  | nil => rfl
  | cons x xs ih => simp [setStr, laStr_cons, ← ih]

theorem joinStr_cons (names : Nat → String) (x : Sym) (xs : List Sym) :
    (joinStr names (x :: xs)).toList = (names x).toList ++ (laStr names xs).toList := by
  induction xs generalizing x with
  | nil => simp [joinStr, laStr]
  | cons y ys ih =>
    rw [show joinStr names (x :: y :: ys) = names x ++ " " ++ joinStr names (y :: ys) from rfl]
    simp [ih, laStr_cons]

section
variable (names : Nat → String) (hinj : ∀ a b, names a = names b → a = b)
  (hnb : ∀ x, ∀ c ∈ (names x).toList, ¬ c = ' ')
include hinj hnb

theorem setStr_inj (xs ys : List Sym) (h : (setStr names xs).toList = (setStr names ys).toList) :
    xs = ys := by
  have h := congrArg (' ' :: ·) h
  simp only [setStr_toList] at h
  exact laStr_inj names hinj hnb _ _ (List.append_cancel_right h)

theorem joinStr_inj (hne : ∀ x, names x ≠ "") (xs ys : List Sym)
    (h : (joinStr names xs).toList = (joinStr names ys).toList) : xs = ys := by
  have ne : ∀ x t, (names x).toList ++ t ≠ [] := fun x t e =>
    hne x (String.toList_inj.1 (List.append_eq_nil_iff.1 e).1)
  cases xs <;> cases ys <;> simp only [joinStr_cons] at h
  · rfl
  · exact absurd h.symm (ne _ _)
  · exact absurd h (ne _ _)
  · obtain ⟨hxy, h⟩ := name_split names hinj _ hnb [] (by simp) _ _ _ _
      (laStr_head _ _) (laStr_head _ _) h
    rw [hxy, laStr_inj names hinj hnb _ _ h]

/-- the common frame `q--name--> [` + body: the state, the symbol and the body are determined
    (digits up to the first `-`, two `-`, the name with `-->` up to the first blank) -/
theorem frame_inj (q q' : Nat) (a a' : Sym) (u u' : List Char)
    (h : Nat.toDigits 10 q ++ ('-' :: '-' :: ((names a).toList ++
          ('-' :: '-' :: '>' :: ' ' :: '[' :: u))) =
        Nat.toDigits 10 q' ++ ('-' :: '-' :: ((names a').toList ++
          ('-' :: '-' :: '>' :: ' ' :: '[' :: u')))) :
    q = q' ∧ a = a' ∧ u = u' := by
  obtain ⟨hq, h⟩ := digits_split _ _ _ _ (by simp) (by simp) h
  obtain ⟨ha, h⟩ := name_split names hinj _ hnb ['-', '-', '>'] (by decide) _ _ _ _ (by simp) (by simp)
    (List.cons.inj (List.cons.inj h).2).2
  exact ⟨hq, ha, (List.cons.inj (List.cons.inj h).2).2⟩

end

theorem setLineStr_toList (names : Nat → String) (q : Nat) (a : Sym) (s : List Sym) :
    (setLineStr names q a s).toList = Nat.toDigits 10 q ++ ('-' :: '-' :: ((names a).toList ++
      ('-' :: '-' :: '>' :: ' ' :: '[' :: ((setStr names s).toList ++ [' ', ']'])))) := by
  simp [setLineStr]

theorem followLineStr_toList (names : Nat → String) (q : Nat) (a : Sym) (s : List Sym) :
    (followLineStr names q a s).toList = Nat.toDigits 10 q ++ ('-' :: '-' :: ((names a).toList ++
      ('-' :: '-' :: '>' :: ' ' :: '[' :: ((joinStr names s).toList ++ [']'])))) := by
  simp [followLineStr]

/-- a line of the direct-read / read section determines the state, the symbol and the list of elements
    — for spellings that are injective and contain no blank -/
theorem set_line_injective (names : Nat → String)
    (hinj : ∀ a b, names a = names b → a = b)
    (hnb : ∀ x, ∀ c ∈ (names x).toList, ¬ c = ' ')
    (q q' : Nat) (a a' : Sym) (s s' : List Sym)
    (h : setLineStr names q a s = setLineStr names q' a' s') : q = q' ∧ a = a' ∧ s = s' := by
  have h1 := congrArg String.toList h
  rw [setLineStr_toList, setLineStr_toList] at h1
  obtain ⟨hq, ha, hu⟩ := frame_inj names hinj hnb q q' a a' _ _ h1
  exact ⟨hq, ha, setStr_inj names hinj hnb _ _ (List.append_cancel_right hu)⟩

/-- a line of the follow section determines the state, the symbol and the list of elements — for
    spellings that are injective, contain no blank and are nonempty -/
theorem follow_line_injective (names : Nat → String)
    (hinj : ∀ a b, names a = names b → a = b)
    (hnb : ∀ x, ∀ c ∈ (names x).toList, ¬ c = ' ')
    (hne : ∀ x, names x ≠ "")
    (q q' : Nat) (a a' : Sym) (s s' : List Sym)
    (h : followLineStr names q a s = followLineStr names q' a' s') : q = q' ∧ a = a' ∧ s = s' := by
  have h1 := congrArg String.toList h
  rw [followLineStr_toList, followLineStr_toList] at h1
  obtain ⟨hq, ha, hu⟩ := frame_inj names hinj hnb q q' a a' _ _ h1
  exact ⟨hq, ha, joinStr_inj names hinj hnb hne _ _ (List.append_cancel_right hu)⟩

/-- **C18, direct-read / read section.**  The section printed for the entries `L` (in whatever order)
    consists of exactly one line per entry, and the line of `(q, a, s)` is in the section iff
    `(q, a, s)` is an entry: nothing extra, nothing missing. -/
theorem C18_listing_sets (names : Nat → String)
    (hinj : ∀ a b, names a = names b → a = b)
    (hnb : ∀ x, ∀ c ∈ (names x).toList, ¬ c = ' ')
    (L : List (Nat × Sym × List Sym)) :
    (setView names L).length = L.length ∧
    (∀ q a s, setLineStr names q a s ∈ setView names L ↔ (q, a, s) ∈ L) :=
  ⟨by simp [setView], fun q a s => mem_map_inj_on _ L (q, a, s) fun e _ h => by
    obtain ⟨h1, h2, h3⟩ := set_line_injective names hinj hnb _ _ _ _ _ _ h
    exact Prod.ext h1 (Prod.ext h2 h3)⟩

/-- **C18, follow section.**  The same for the follow section (nonempty spellings). -/
theorem C18_listing_follow (names : Nat → String)
    (hinj : ∀ a b, names a = names b → a = b)
    (hnb : ∀ x, ∀ c ∈ (names x).toList, ¬ c = ' ')
    (hne : ∀ x, names x ≠ "")
    (L : List (Nat × Sym × List Sym)) :
    (followView names L).length = L.length ∧
    (∀ q a s, followLineStr names q a s ∈ followView names L ↔ (q, a, s) ∈ L) :=
  ⟨by simp [followView], fun q a s => mem_map_inj_on _ L (q, a, s) fun e _ h => by
    obtain ⟨h1, h2, h3⟩ := follow_line_injective names hinj hnb hne _ _ _ _ _ _ h
    exact Prod.ext h1 (Prod.ext h2 h3)⟩

/-- **C18, transition section.**  One line per transition, each the line of an entry. -/
theorem C18_listing_trans (names : Nat → String) (G : Grammar) (L : List (Nat × Bool × Nat)) :
    (transView names G L).length = L.length ∧
    ∀ l, l ∈ transView names G L ↔ ∃ e ∈ L, l = trLineStr names G e := by
  simp [transView, eq_comm]

theorem trShiftStr_toList (names : Nat → String) (q : Nat) (a : Sym) :
    (trShiftStr names q a).toList = Nat.toDigits 10 q ++ (':' :: (names a).toList) := by
  simp [trShiftStr]

theorem trReduceStr_toList (names : Nat → String) (G : Grammar) (q r : Nat) :
    (trReduceStr names G q r).toList = Nat.toDigits 10 q ++ (':' :: ((names (G.lhsOf r)).toList ++
      ('-' :: '-' :: '>' :: (symsStr names (G.rhsOf r)).toList))) := by
  simp [trReduceStr]

/-- the line of a shift / goto transition determines the state and the symbol (the digits end at the
    first `:`; no condition on the characters of the names) -/
theorem tr_shift_injective (names : Nat → String) (hinj : ∀ a b, names a = names b → a = b)
    (q q' : Nat) (a a' : Sym) (h : trShiftStr names q a = trShiftStr names q' a') :
    q = q' ∧ a = a' := by
  have h1 := congrArg String.toList h
  rw [trShiftStr_toList, trShiftStr_toList] at h1
  obtain ⟨hq, ht⟩ := digits_split _ _ _ _ (by simp) (by simp) h1
  exact ⟨hq, hinj _ _ (String.toList_inj.1 (List.cons.inj ht).2)⟩

/-- the line of a reduce transition is the prefix of the lookahead line of the same transition -/
theorem trReduceStr_prefix (names : Nat → String) (G : Grammar) (q r : Nat) (la : List Sym) :
    laLineStr names G q r la = trReduceStr names G q r ++ " : " ++ laStr names la := rfl

/-- the line of a reduce transition determines the state and the content of the rule (the digits end at
    the first `:`, the left-hand side with `-->` at the first blank or at the end of the line) — for
    spellings that are injective and contain no blank; no condition on `:` -/
theorem tr_reduce_injective (names : Nat → String) (G : Grammar)
    (hinj : ∀ a b, names a = names b → a = b)
    (hnb : ∀ x, ∀ c ∈ (names x).toList, ¬ c = ' ')
    (q q' r r' : Nat) (h : trReduceStr names G q r = trReduceStr names G q' r') :
    q = q' ∧ G.lhsOf r = G.lhsOf r' ∧ G.rhsOf r = G.rhsOf r' := by
  have h1 := congrArg String.toList h
  rw [trReduceStr_toList, trReduceStr_toList] at h1
  obtain ⟨hq, ht⟩ := digits_split _ _ _ _ (by simp) (by simp) h1
  obtain ⟨hl, hr⟩ := name_split names hinj _ hnb ['-', '-', '>'] (by decide) _ _ _ _ (symsStr_head _ _) (symsStr_head _ _)
    (List.cons.inj ht).2
  exact ⟨hq, hl, symsStr_inj names hinj hnb _ _ hr⟩

/-- a shift line is never a reduce line: the name would contain a blank (non-empty right-hand side) or
    be exactly `lhs-->` (empty right-hand side) -/
theorem tr_shift_ne_reduce (names : Nat → String) (G : Grammar)
    (hnb : ∀ x, ∀ c ∈ (names x).toList, ¬ c = ' ')
    (harrow : ∀ a b, names a ≠ names b ++ "-->")
    (q q' : Nat) (a : Sym) (r : Nat) (h : trShiftStr names q a = trReduceStr names G q' r) : False := by
  have h1 := congrArg String.toList h
  rw [trShiftStr_toList, trReduceStr_toList] at h1
  have ht := (List.cons.inj (digits_split _ _ _ _ (by simp) (by simp) h1).2).2
  cases hrhs : G.rhsOf r with
  | nil =>
    rw [hrhs] at ht
    exact harrow a (G.lhsOf r) (String.toList_inj.1 (by simp [ht, symsStr]))
  | cons x xs =>
    rw [hrhs, symsStr_cons] at ht
    exact hnb a ' ' (by simp [ht]) rfl

/-- the line of a transition determines the state, the kind of the transition, the symbol of a shift /
    goto transition and the content of the rule of a reduce transition — for spellings that are
    injective, contain no blank, and of which none is another one followed by `-->` -/
theorem tr_line_injective (names : Nat → String) (G : Grammar)
    (hinj : ∀ a b, names a = names b → a = b)
    (hnb : ∀ x, ∀ c ∈ (names x).toList, ¬ c = ' ')
    (harrow : ∀ a b, names a ≠ names b ++ "-->")
    (e e' : Nat × Bool × Nat) (h : trLineStr names G e = trLineStr names G e') :
    e.1 = e'.1 ∧ e.2.1 = e'.2.1 ∧ (e.2.1 = false → e.2.2 = e'.2.2) ∧
    (e.2.1 = true → G.lhsOf e.2.2 = G.lhsOf e'.2.2 ∧ G.rhsOf e.2.2 = G.rhsOf e'.2.2) := by
  obtain ⟨q, b, x⟩ := e
  obtain ⟨q', b', x'⟩ := e'
  cases b <;> cases b' <;> simp only [trLineStr, Bool.false_eq_true, if_false, if_true] at h
  · obtain ⟨h1, h2⟩ := tr_shift_injective names hinj q q' x x' h
    exact ⟨h1, rfl, fun _ => h2, (fun hc => by cases hc)⟩
  · exact (tr_shift_ne_reduce names G hnb harrow q q' x x' h).elim
  · exact (tr_shift_ne_reduce names G hnb harrow q' q x' x h.symm).elim
  · obtain ⟨h1, h2, h3⟩ := tr_reduce_injective names G hinj hnb q q' x x' h
    exact ⟨h1, rfl, (fun hc => by cases hc), fun _ => ⟨h2, h3⟩⟩

/-- spellings of an expression grammar: `E`=0, `+`=1, `)`=2, `-x`=3, `]`=4 -/
def setNames (n : Nat) : String :=
  match n with
  | 0 => "E" | 1 => "+" | 2 => ")" | 3 => "-x" | 4 => "]" | n + 5 => "y" ++ toString n

example : setLineStr setNames 3 0 [1, 2] = "3--E--> [+ )  ]" := by decide +kernel
example : followLineStr setNames 3 0 [1, 2] = "3--E--> [+ )]" := by decide +kernel
example : setLineStr setNames 3 0 [] = "3--E--> [ ]" := by decide +kernel
example : followLineStr setNames 3 0 [] = "3--E--> []" := by decide +kernel
example : setLineStr setNames 12 3 [4] = "12---x--> []  ]" := by decide +kernel
example : followLineStr setNames 12 3 [4] = "12---x--> []]" := by decide +kernel

example : setView exNames [(0, 4, [2, 3]), (2, 4, [1]), (1, 4, [])] =
    ["0--S--> [a b  ]", "2--S--> [$end  ]", "1--S--> [ ]"] := by decide +kernel
example : followView exNames [(0, 4, [1, 2, 3]), (2, 4, [1]), (1, 4, [])] =
    ["0--S--> [$end a b]", "2--S--> [$end]", "1--S--> []"] := by decide +kernel
example : transView exNames exG [(0, false, 4), (3, true, 2), (4, true, 1)] =
    ["0:S", "3:S--> b ", "4:S--> a  S "] := by decide +kernel

/-- the hypotheses are satisfiable: the numbered spellings `s0, s1, …` -/
example :
    (∀ a b, numNames a = numNames b → a = b) ∧
    (∀ x, ∀ c ∈ (numNames x).toList, ¬ c = ' ') ∧
    (∀ x, numNames x ≠ "") := by
  refine ⟨numNames_inj, numNames_clean _ (by decide) (fun c h e => by subst e; cases h), fun x h => ?_⟩
  have := congrArg String.toList h
  rw [numNames_toList] at this
  simp at this

/-- the hypothesis `harrow` is needed: with the (injective, blank-free, nonempty) spellings `A-->` = 0,
    `A` = 1 and the empty rule `A → ε`, the shift line on symbol 0 is the reduce line of that rule -/
def arrowNames (n : Nat) : String :=
  match n with
  | 0 => "A-->" | 1 => "A" | n + 2 => "z" ++ toString n

def arrowG : Grammar := { nT := 0, rules := [⟨1, []⟩] }

example : trLineStr arrowNames arrowG (7, false, 0) = trLineStr arrowNames arrowG (7, true, 0) ∧
    trLineStr arrowNames arrowG (7, false, 0) = "7:A-->" := by decide +kernel

#print axioms set_line_injective
#print axioms follow_line_injective
#print axioms C18_listing_sets
#print axioms C18_listing_follow
#print axioms C18_listing_trans
#print axioms tr_shift_injective
#print axioms trReduceStr_prefix
#print axioms tr_reduce_injective
#print axioms tr_line_injective

end Y.Props
