import Yv.Model.PackA
/-! C05: `UnPackTable (PackTable tab) = tab` for every rectangular matrix, for the executable
    placement view `PackA.packA` (order, first fit, arrays, trim of leading empty slots). -/
namespace PackA
open PackP

theorem order_perm (tab : List Row) : (order tab).Perm (List.range tab.length) := by
  unfold order
  exact List.mergeSort_perm _ _

theorem order_nodup (tab : List Row) : (order tab).Nodup :=
  (order_perm tab).nodup_iff.mpr List.nodup_range

theorem inv_nil (tab : List Row) : Inv tab [] :=
  ⟨by simp, by intro _ _ _ _ _ _ h; cases h⟩

theorem step_inv (tab : List Row) (pl : Placed) (i : Nat) (h : Inv tab pl)
    (hnew : i ∉ pl.map Prod.fst) : Inv tab (step tab pl i) :=
  inv_place tab pl h i _ hnew (firstFit_fits tab pl i _ 0 (by omega))

theorem foldl_step (tab : List Row) : ∀ (l : List Nat) (pl : Placed), Inv tab pl →
    (pl.map Prod.fst ++ l).Nodup →
    Inv tab (l.foldl (step tab) pl) ∧ (l.foldl (step tab) pl).map Prod.fst = pl.map Prod.fst ++ l := by
  intro l
  induction l with
  | nil => intro pl h _; exact ⟨h, by simp⟩
  | cons i is ih =>
    intro pl h nd
    have hnew : i ∉ pl.map Prod.fst := by
      rw [List.nodup_append] at nd
      intro hm
      exact nd.2.2 i hm i (List.mem_cons_self ..) rfl
    have hs : (step tab pl i).map Prod.fst = pl.map Prod.fst ++ [i] := by simp [step]
    have := ih (step tab pl i) (step_inv tab pl i h hnew)
      (by rw [hs, List.append_assoc]; exact nd)
    rw [hs, List.append_assoc] at this
    exact this

theorem place_fst (tab : List Row) : (place tab).map Prod.fst = order tab := by
  have := (foldl_step tab (order tab) [] (inv_nil tab) (by simpa using order_nodup tab)).2
  simpa [place] using this

/-- the invariant (distinct rows, pairwise disjoint slots) holds for the final placement -/
theorem place_inv (tab : List Row) : Inv tab (place tab) :=
  (foldl_step tab (order tab) [] (inv_nil tab) (by simpa using order_nodup tab)).1

theorem place_rows_perm (tab : List Row) :
    ((place tab).map Prod.fst).Perm (List.range tab.length) := by
  rw [place_fst]; exact order_perm tab

theorem place_mem (tab : List Row) (i : Nat) (hi : i < tab.length) : ∃ d, (i, d) ∈ place tab := by
  have : i ∈ (place tab).map Prod.fst :=
    (place_rows_perm tab).mem_iff.mpr (List.mem_range.mpr hi)
  obtain ⟨⟨i', d⟩, hm, rfl⟩ := List.mem_map.mp this
  exact ⟨d, hm⟩

theorem place_count (tab : List Row) (i : Nat) :
    ((place tab).map Prod.fst).count i = if i < tab.length then 1 else 0 := by
  rw [(place_rows_perm tab).count_eq]
  have h1 := (List.nodup_iff_count (l := List.range tab.length)).mp List.nodup_range i
  have h2 := List.count_pos_iff (a := i) (l := List.range tab.length)
  rw [List.mem_range] at h2
  split <;> omega

theorem occupied_le_maxIndex {tab : List Row} {pl : Placed} {p : Nat} {x : Nat × Nat}
    (h : owner tab pl p = some x) : p ≤ maxIndex tab pl := by
  obtain ⟨i, d⟩ := x
  obtain ⟨hm, j, hj, hp⟩ := owner_spec h
  apply Y.mem_le_foldl_max
  unfold slots
  exact List.mem_flatMap.mpr ⟨(i, d), hm, List.mem_map.mpr ⟨j, hj, hp⟩⟩

theorem slotVal_ne_zero {tab : List Row} {pl : Placed} {p : Nat} {x : Nat × Nat}
    (h : owner tab pl p = some x) : slotVal tab pl p ≠ 0 := by
  obtain ⟨i, d⟩ := x
  obtain ⟨_, j, hj, hp⟩ := owner_spec h
  unfold slotVal
  rw [h]
  have : p - d = j := by omega
  simp only [this]
  exact (mem_nz.mp hj).2

theorem getD_drop {α : Type} (l : List α) (k n : Nat) (dflt : α) :
    (l.drop k).getD n dflt = l.getD (k + n) dflt := by
  simp [List.getD_eq_getElem?_getD]

theorem takeWhile_zero (l : List Int) (p : Nat) (h : p < (l.takeWhile (· == 0)).length) :
    l.getD p 0 = 0 := by
  have hp := List.takeWhile_prefix (· == 0) (l := l)
  have hl := Nat.lt_of_lt_of_le h hp.length_le
  rw [List.getD_eq_getElem?_getD, List.getElem?_eq_getElem hl, Option.getD_some, ← hp.getElem h]
  simpa using List.all_eq_true.1 List.all_takeWhile _ (List.getElem_mem h)

theorem dispOf_eq {tab : List Row} {pl : Placed} (h : Inv tab pl) {i d : Nat} (hm : (i, d) ∈ pl) :
    dispOf pl i = d := by
  unfold dispOf
  cases hx : pl.find? (fun x => x.1 == i) with
  | none => simpa using List.find?_eq_none.mp hx (i, d) hm
  | some x =>
    have h2 : x.1 = i := by simpa using List.find?_some hx
    exact (Prod.mk.inj (Y.eq_of_key_eq Prod.fst h.nodup (List.mem_of_find?_eq_some hx) hm h2)).2

theorem off_getD (tab : List Row) (pl : Placed) (i : Nat) (hi : i < tab.length) :
    (packOf tab pl).off.getD i 0 = (dispOf pl i : Int) - (trimK tab pl : Int) := by
  unfold packOf
  simp only [Y.getD_map_range, if_pos hi]

theorem check_length (tab : List Row) (pl : Placed) :
    (packOf tab pl).check.length = maxIndex tab pl + 1 - trimK tab pl := by
  simp [packOf, chkU]

theorem check_getD (tab : List Row) (pl : Placed) (n : Nat)
    (hn : trimK tab pl + n ≤ maxIndex tab pl) :
    (packOf tab pl).check.getD n (-1) = chkVal tab pl (trimK tab pl + n) := by
  simp only [packOf, chkU, getD_drop, Y.getD_map_range]
  rw [if_pos (by omega)]

theorem act_getD (tab : List Row) (pl : Placed) (n : Nat)
    (hn : trimK tab pl + n ≤ maxIndex tab pl) :
    (packOf tab pl).act.getD n 0 = slotVal tab pl (trimK tab pl + n) := by
  simp only [packOf, retU, getD_drop, Y.getD_map_range]
  rw [if_pos (by omega)]

theorem chkVal_eq_iff (tab : List Row) (pl : Placed) (p i : Nat) :
    chkVal tab pl p = (i : Int) ↔ slotOwner tab pl p = some i := by
  unfold chkVal
  split
  · rename_i i' h; rw [h]; simp only [Option.some.injEq]; omega
  · rename_i h; rw [h]; simp

/-- an occupied slot lies in the window that survives the trim: below the trim count `ret` holds zeros,
    an occupied slot a non-zero value -/
theorem occupied_window {tab : List Row} {pl : Placed} {p : Nat} {x : Nat × Nat}
    (h : owner tab pl p = some x) : trimK tab pl ≤ p ∧ p ≤ maxIndex tab pl := by
  have hle := occupied_le_maxIndex h
  refine ⟨Nat.le_of_not_lt fun hlt => slotVal_ne_zero h ?_, hle⟩
  have hz := takeWhile_zero (retU tab pl) p hlt
  rwa [retU, Y.getD_map_range, if_pos (by omega)] at hz

/-- the generated cell rule on the trimmed arrays, for any placement: its guard (`off[i]+j < 0`, or
    beyond the check vector, or a slot checked for another row) holds exactly when the slot of cell
    `(i, j)` is not owned by row `i`; otherwise the value array holds the value of that slot -/
theorem packOf_cell (tab : List Row) (pl : Placed) (i j : Nat) (hi : i < tab.length) :
    ((packOf tab pl).off.getD i 0 + (j : Int) < 0 ∨
      ((packOf tab pl).check.length : Int) ≤ (packOf tab pl).off.getD i 0 + (j : Int) ∨
      (packOf tab pl).check.getD ((packOf tab pl).off.getD i 0 + (j : Int)).toNat (-1) ≠ (i : Int) ↔
        slotOwner tab pl (dispOf pl i + j) ≠ some i) ∧
    (slotOwner tab pl (dispOf pl i + j) = some i →
      (packOf tab pl).act.getD ((packOf tab pl).off.getD i 0 + (j : Int)).toNat 0 =
        slotVal tab pl (dispOf pl i + j)) := by
  rw [off_getD tab pl i hi, check_length]
  generalize dispOf pl i = d
  by_cases hw : trimK tab pl ≤ d + j ∧ d + j ≤ maxIndex tab pl
  · have hnat : ((d : Int) - (trimK tab pl : Int) + (j : Int)).toNat = d + j - trimK tab pl := by omega
    have hp : trimK tab pl + (d + j - trimK tab pl) = d + j := by omega
    rw [hnat, check_getD tab pl _ (by omega), act_getD tab pl _ (by omega), hp, Ne, chkVal_eq_iff]
    exact ⟨⟨fun hc => hc.elim (by omega) fun hc => hc.elim (by omega) id, fun ho => .inr (.inr ho)⟩,
      fun _ => rfl⟩
  · have hfree : slotOwner tab pl (d + j) = none := by
      unfold slotOwner
      cases hx : owner tab pl (d + j) with
      | none => rfl
      | some x => exact absurd (occupied_window hx) hw
    rw [hfree]
    exact ⟨⟨fun _ => nofun, fun _ => by omega⟩, nofun⟩

theorem unpackLookup_eq_lookup (tab : List Row) (pl : Placed) (i j : Nat) (hi : i < tab.length) :
    unpackLookup (packOf tab pl) i j = lookup tab pl i (dispOf pl i) j := by
  obtain ⟨hg, ha⟩ := packOf_cell tab pl i j hi
  unfold unpackLookup lookup
  by_cases ho : slotOwner tab pl (dispOf pl i + j) = some i
  · rw [if_neg fun g => hg.1 g ho, if_pos ho, ha ho]
  · rw [if_pos (hg.2 ho), if_neg ho]

/-- C05: unpacking the packed table (first-fit placement in sorted row order, arrays, trim of
    leading empty slots) returns every cell of the original rectangular matrix. -/
theorem C05_pack_roundtrip {ncols : Nat} (tab : List (List Int)) (hrect : ∀ r ∈ tab, r.length = ncols)
    (i j : Nat) (hi : i < tab.length) (hj : j < ncols) :
    unpackLookup (packA tab) i j = (tab.getD i []).getD j 0 := by
  obtain ⟨d, hm⟩ := place_mem tab i hi
  rw [packA, unpackLookup_eq_lookup tab _ i j hi, dispOf_eq (place_inv tab) hm]
  exact lookup_correct tab _ (place_inv tab) i d j hm (by rw [hrect _ (Y.getD_mem [] hi)]; exact hj)

/-- a cell of the packed table that passes the check-vector test holds a non-zero value (what the
    lookup with default vectors, C05b, needs beyond the round trip) -/
theorem packA_hit_ne_zero (tab : List (List Int)) (i j : Nat) (hi : i < tab.length)
    (hh : ¬ ((packA tab).off.getD i 0 + (j : Int) < 0 ∨
      ((packA tab).check.length : Int) ≤ (packA tab).off.getD i 0 + (j : Int) ∨
      (packA tab).check.getD ((packA tab).off.getD i 0 + (j : Int)).toNat (-1) ≠ (i : Int))) :
    unpackLookup (packA tab) i j ≠ 0 := by
  have ho : slotOwner tab (place tab) (dispOf (place tab) i + j) = some i :=
    Classical.not_not.1 fun hn => hh ((packOf_cell tab _ i j hi).1.2 hn)
  show unpackLookup (packOf tab (place tab)) i j ≠ 0
  rw [unpackLookup_eq_lookup tab _ i j hi, lookup, if_pos ho]
  obtain ⟨x, hx, _⟩ := Option.map_eq_some_iff.1 ho
  exact slotVal_ne_zero hx

/-- the same, as an equality of whole matrices -/
theorem C05_unpack_pack {ncols : Nat} (tab : List (List Int)) (hrect : ∀ r ∈ tab, r.length = ncols) :
    unpack tab.length ncols (packA tab) = tab := by
  refine List.ext_getElem (by simp [unpack]) fun i _ hi => ?_
  have hlen := hrect _ (List.getElem_mem hi)
  refine List.ext_getElem (by simp [unpack, hlen]) fun j _ hj => ?_
  have := C05_pack_roundtrip tab hrect i j hi (hlen ▸ hj)
  simpa [unpack, List.getD_eq_getElem?_getD, hi, hj] using this

/-! `List.mergeSort` is defined by well-founded recursion, so `decide` cannot evaluate `order`;
    the order of each sample is computed by `simp` first, the rest is closed by `decide`. -/

theorem order_ex1 : order [[0, 5, 0, 7]] = [0] := by
  simp [order, List.range, List.range.loop]

/-- one row, first slot empty (trimmed away, displacement becomes -1), third slot empty -/
example : packA [[0, 5, 0, 7]] = { act := [5, 0, 7], off := [-1], check := [0, -1, 0] } := by
  unfold packA place; rw [order_ex1]; decide +kernel

example : unpack 1 4 (packA [[0, 5, 0, 7]]) = [[0, 5, 0, 7]] := by
  unfold packA place; rw [order_ex1]; decide +kernel

theorem order_ex2 : order [[0, 0, 1], [0, 1, 0], [0, 0, 1]] = [0, 1, 2] := by
  unfold order
  exact List.mergeSort_of_pairwise (by decide)

/-- 3×3, rows 0 and 2 identical, every first column empty: interleaving plus trim -/
example : packA [[0, 0, 1], [0, 1, 0], [0, 0, 1]] =
    { act := [1, 1, 1], off := [-1, -1, 0], check := [1, 0, 2] } := by
  unfold packA place; rw [order_ex2]; decide +kernel

example : unpack 3 3 (packA [[0, 0, 1], [0, 1, 0], [0, 0, 1]]) =
    [[0, 0, 1], [0, 1, 0], [0, 0, 1]] := by
  unfold packA place; rw [order_ex2]; decide +kernel

theorem order_ex3 : order [[0, 0, 1], [2, 3, 0], [0, 4, 0]] = [1, 0, 2] := by
  have c0 : cnt [[0, 0, 1], [2, 3, 0], [0, 4, 0]] 0 = 1 := by decide
  have c1 : cnt [[0, 0, 1], [2, 3, 0], [0, 4, 0]] 1 = 2 := by decide
  have c2 : cnt [[0, 0, 1], [2, 3, 0], [0, 4, 0]] 2 = 1 := by decide
  simp [order, List.mergeSort, List.range, List.range.loop, List.MergeSort.Internal.splitInTwo,
    c0, c1, c2]

/-- 3×3 where the sort really reorders (row 1 has two non-zero cells) and first fit skips -/
example : packA [[0, 0, 1], [2, 3, 0], [0, 4, 0]] =
    { act := [2, 3, 1, 4], off := [0, 0, 2], check := [1, 1, 0, 2] } := by
  unfold packA place; rw [order_ex3]; decide +kernel

example : unpack 3 3 (packA [[0, 0, 1], [2, 3, 0], [0, 4, 0]]) =
    [[0, 0, 1], [2, 3, 0], [0, 4, 0]] := by
  unfold packA place; rw [order_ex3]; decide +kernel

/-- the general theorem instantiated (cell (0,3) of the first sample) -/
example : unpackLookup (packA [[0, 5, 0, 7]]) 0 3 = 7 :=
  C05_pack_roundtrip (ncols := 4) [[0, 5, 0, 7]] (by decide) 0 3 (by decide) (by decide)

end PackA
