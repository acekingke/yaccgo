import Yv.Model.Subst
/-! # C07b — semantic actions: the TEXT half (`$$` / `$n` rewriting, the comment)

The generator rewrites the action text of every rule in two passes (`Yv/Model/Subst.lean`):
`strings.ReplaceAll(code, "$$", "dollarDolar."+tag)` and then the regexp `\$[0-9]+` on the RESULT.
This file gives the chunk view of an action (what the two passes together do) and proves that the model
of the two passes agrees with it. -/

namespace Subst

/-! ## The chunk view (specification side) -/

/-- A piece of an action text: verbatim text, `$$`, or `$digits`. -/
inductive Chunk
  | text (s : List Char)
  | dd
  | ref (digits : List Char)
  deriving DecidableEq, Repr

/-- Put one verbatim character in front (merging with a leading text chunk). -/
def pushChar (c : Char) : List Chunk → List Chunk
  | [] => [.text [c]]
  | .text s :: cs => .text (c :: s) :: cs
  | .dd :: cs => .text [c] :: .dd :: cs
  | .ref ds :: cs => .text [c] :: .ref ds :: cs

/-- Leave the state "`$` followed by the digits `ds`": a lone `$` is text, `$ds` is a reference. -/
def closeChunk : List Char → List Chunk → List Chunk
  | [], cs => pushChar '$' cs
  | d :: ds, cs => .ref (d :: ds) :: cs

/-- The tokenizer, left to right.  State `none`: outside; `some ds`: a `$` and the digits `ds` were read.
    A `$` directly after a `$` makes `$$`; a `$` followed by digits (as many as there are) makes a reference;
    everything else is text.  The characteristic equations are `chunks_nil`, `chunks_dd`, `chunks_ref`,
    `chunks_char` below; together with `chunks_raw` they determine `chunks`. -/
def chunksFrom : Option (List Char) → List Char → List Chunk
  | none, [] => []
  | some ds, [] => closeChunk ds []
  | none, c :: rest =>
    if c = '$' then chunksFrom (some []) rest else pushChar c (chunksFrom none rest)
  | some ds, c :: rest =>
    if c.isDigit then chunksFrom (some (ds ++ [c])) rest
    else if c = '$' then
      (if ds = [] then .dd :: chunksFrom none rest else closeChunk ds (chunksFrom (some []) rest))
    else closeChunk ds (pushChar c (chunksFrom none rest))

def chunks (code : List Char) : List Chunk := chunksFrom none code

/-- The source text of a chunk. -/
def raw : Chunk → List Char
  | .text s => s
  | .dd => ['$', '$']
  | .ref ds => '$' :: ds

/-- What the generator emits for a chunk; `none` = it panics.  `ins` is the text for `$$`, `mid` the text
    between the index and the tag. -/
def renderOpt (ins mid : List Char) (tags : List (List Char)) : Chunk → Option (List Char)
  | .text s => some s
  | .dd => some ins
  | .ref ds => emitRef mid tags ds

def renderAll (ins mid : List Char) (tags : List (List Char)) : List Chunk → Option (List Char)
  | [] => some []
  | c :: cs => app? (renderOpt ins mid tags c) (renderAll ins mid tags cs)

/-- The emitted text of a chunk whose reference (if it is one) is in range:
    `render (text s) = s`, `render dd = ins`, `render (ref ds) = "Dollar[" ++ ds ++ mid ++ tag_k`. -/
def render (ins mid : List Char) (tags : List (List Char)) : Chunk → List Char
  | .text s => s
  | .dd => ins
  | .ref ds => "Dollar[".toList ++ ds ++ mid ++ (tags[atoi ds - 1]?).getD []

/-- Go: `render (text s) = s`, `render dd = "dollarDolar." ++ lhsTag`,
    `render (ref ds) = "Dollar[" ++ ds ++ "]." ++ tag_k`. -/
def renderGo (lhsTag : List Char) (tags : List (List Char)) : Chunk → List Char :=
  render (ddGo lhsTag) midGo tags

/-- TypeScript: `render dd = "dollarDolar.ValType." ++ lhsTag`,
    `render (ref ds) = "Dollar[" ++ ds ++ "].ValType." ++ tag_k`. -/
def renderTs (lhsTag : List Char) (tags : List (List Char)) : Chunk → List Char :=
  render (ddTs lhsTag) midTs tags

/-- The reference `$ds` denotes a right-hand-side position: `1 ≤ k ≤ n`. -/
def InRange (n : Nat) (ds : List Char) : Prop := 1 ≤ atoi ds ∧ atoi ds ≤ n

def headDigit : List Char → Bool
  | c :: _ => c.isDigit
  | [] => false

def headIs (a : Char) : List Char → Bool
  | c :: _ => decide (c = a)
  | [] => false

/-- The two-character sequence `a b` occurs in the text. -/
def hasPair (a b : Char) : List Char → Bool
  | [] => false
  | [_] => false
  | c :: d :: rest => (decide (c = a) && decide (d = b)) || hasPair a b (d :: rest)

end Subst

namespace Y.Props
open Subst

/-- The numerals in the generated text are the usual decimal ones. -/
theorem natStr_eq_repr (n : Nat) : natStr n = (Nat.repr n).toList := Nat.toList_repr.symm

theorem isDigit_ne_dollar {c : Char} (h : c.isDigit = true) : c ≠ '$' := by
  intro e; subst e; exact absurd h (by decide)

theorem app?_some (a : List Char) (x : Option (List Char)) :
    app? (some a) x = x.map (a ++ ·) := by cases x <;> rfl

theorem app?_nil (x : Option (List Char)) : app? (some []) x = x := by cases x <;> rfl

theorem app?_none_right (x : Option (List Char)) : app? x none = none := by cases x <;> rfl

theorem app?_single (c : Char) (x : Option (List Char)) : app? (some [c]) x = cons? c x := by
  cases x <;> rfl

theorem cons?_app? (c : Char) (a : List Char) (x : Option (List Char)) :
    cons? c (app? (some a) x) = app? (some (c :: a)) x := by cases x <;> rfl

theorem replaceAll2_hit (a b : Char) (ins r : List Char) :
    replaceAll2 a b ins (a :: b :: r) = ins ++ replaceAll2 a b ins r := by
  simp [replaceAll2]

theorem replaceAll2_miss (a b : Char) (ins : List Char) (c : Char) (r : List Char)
    (h : c = a → headIs b r = false) :
    replaceAll2 a b ins (c :: r) = c :: replaceAll2 a b ins r := by
  cases r with
  | nil => simp [replaceAll2]
  | cons d r =>
    have : ¬ (c = a ∧ d = b) := by
      intro ⟨h1, h2⟩; have := h h1; simp [headIs, h2] at this
    simp [replaceAll2, this]

theorem replaceAll2_clean (a b : Char) (ins : List Char) :
    ∀ (x tail : List Char), (∀ c ∈ x, c ≠ a) →
      replaceAll2 a b ins (x ++ tail) = x ++ replaceAll2 a b ins tail
  | [], _, _ => rfl
  | c :: x, tail, h => by
    have hc : c ≠ a := h c (by simp)
    rw [List.cons_append, replaceAll2_miss a b ins c _ (fun e => absurd e hc),
      replaceAll2_clean a b ins x tail (fun d hd => h d (by simp [hd]))]
    rfl

theorem replaceAll2_nil (a b : Char) (ins : List Char) : replaceAll2 a b ins [] = [] := rfl

/-- After the `$$` pass a text that did not start with a digit still does not (the inserted text starts
    with a non-digit). -/
theorem headDigit_replace (a b : Char) (ins : List Char) (hi : headDigit ins = false) (hne : ins ≠ [])
    (r : List Char) (h : headDigit r = false) : headDigit (replaceAll2 a b ins r) = false := by
  cases r with
  | nil => rfl
  | cons c r =>
    cases r with
    | nil => simpa [replaceAll2] using h
    | cons d r =>
      by_cases hh : c = a ∧ d = b
      · simp only [replaceAll2, hh, and_self, if_true]
        cases ins with
        | nil => exact absurd rfl hne
        | cons i0 ins => simpa [headDigit] using hi
      · simp only [replaceAll2, hh, if_false]; simpa [headDigit] using h

theorem scan_digits (emit : List Char → Option (List Char)) :
    ∀ (ds acc tail : List Char), (∀ c ∈ ds, c.isDigit = true) →
      scan emit (some acc) (ds ++ tail) = scan emit (some (acc ++ ds)) tail
  | [], acc, tail, _ => by simp
  | d :: ds, acc, tail, h => by
    have hd : d.isDigit = true := h d (by simp)
    rw [List.cons_append, scan, if_pos hd, scan_digits emit ds _ tail (fun c hc => h c (by simp [hc]))]
    simp

theorem scan_dollar (emit : List Char → Option (List Char)) (r : List Char) :
    scan emit none ('$' :: r) = scan emit (some []) r := by simp [scan]

theorem scan_char (emit : List Char → Option (List Char)) (c : Char) (r : List Char) (h : c ≠ '$') :
    scan emit none (c :: r) = cons? c (scan emit none r) := by simp [scan, h]

theorem scan_close (emit : List Char → Option (List Char)) (acc tail : List Char)
    (h : headDigit tail = false) :
    scan emit (some acc) tail = app? (closeRef emit acc) (scan emit none tail) := by
  cases tail with
  | nil => cases h' : closeRef emit acc <;> simp [scan, h', app?]
  | cons c r =>
    have hc : c.isDigit = false := h
    by_cases hd : c = '$'
    · subst hd; rw [scan_dollar]; simp [scan]
    · rw [scan_char emit c r hd]; simp [scan, hc, hd]

theorem scan_nil (emit : List Char → Option (List Char)) : scan emit none [] = some [] := rfl

theorem scan_dollar_plain (emit : List Char → Option (List Char)) (r : List Char)
    (h : headDigit r = false) : scan emit none ('$' :: r) = cons? '$' (scan emit none r) := by
  rw [scan_dollar, scan_close emit [] r h]; exact app?_single _ _

theorem scan_ref (emit : List Char → Option (List Char)) (ds tail : List Char) (hne : ds ≠ [])
    (hds : ∀ c ∈ ds, c.isDigit = true) (ht : headDigit tail = false) :
    scan emit none ('$' :: (ds ++ tail)) = app? (emit ds) (scan emit none tail) := by
  rw [scan_dollar, scan_digits emit ds [] tail hds, List.nil_append, scan_close emit ds tail ht]
  cases ds with
  | nil => exact absurd rfl hne
  | cons d ds => rfl

theorem scan_clean (emit : List Char → Option (List Char)) :
    ∀ (x r : List Char), (∀ c ∈ x, c ≠ '$') → scan emit none (x ++ r) = app? (some x) (scan emit none r)
  | [], r, _ => (app?_nil _).symm
  | c :: x, r, h => by
    rw [List.cons_append, scan_char emit c _ (h c (by simp)),
      scan_clean emit x r (fun d hd => h d (by simp [hd])), cons?_app?]

theorem chunksFrom_digits :
    ∀ (ds acc tail : List Char), (∀ c ∈ ds, c.isDigit = true) →
      chunksFrom (some acc) (ds ++ tail) = chunksFrom (some (acc ++ ds)) tail
  | [], acc, tail, _ => by simp
  | d :: ds, acc, tail, h => by
    have hd : d.isDigit = true := h d (by simp)
    rw [List.cons_append, chunksFrom, if_pos hd,
      chunksFrom_digits ds _ tail (fun c hc => h c (by simp [hc]))]
    simp

theorem chunks_nil : chunks [] = [] := rfl

theorem chunks_dd (r : List Char) : chunks ('$' :: '$' :: r) = .dd :: chunks r := by
  simp [chunks, chunksFrom]

theorem chunks_char (c : Char) (r : List Char)
    (h : c = '$' → headIs '$' r = false ∧ headDigit r = false) :
    chunks (c :: r) = pushChar c (chunks r) := by
  by_cases hc : c = '$'
  · subst hc
    obtain ⟨h1, h2⟩ := h rfl
    cases r with
    | nil => rfl
    | cons d r =>
      have hd : d.isDigit = false := h2
      have hd' : d ≠ '$' := by simpa [headIs] using h1
      simp [chunks, chunksFrom, hd, hd', closeChunk]
  · simp [chunks, chunksFrom, hc]

theorem chunks_ref (ds tail : List Char) (hne : ds ≠ []) (hds : ∀ c ∈ ds, c.isDigit = true)
    (ht : headDigit tail = false) : chunks ('$' :: (ds ++ tail)) = .ref ds :: chunks tail := by
  have h0 : chunks ('$' :: (ds ++ tail)) = chunksFrom (some ds) tail := by
    simp only [chunks, chunksFrom, if_true]
    rw [chunksFrom_digits ds [] tail hds, List.nil_append]
  rw [h0]
  cases ds with
  | nil => exact absurd rfl hne
  | cons d ds =>
    cases tail with
    | nil => rfl
    | cons c r =>
      have hc : c.isDigit = false := ht
      by_cases hd : c = '$'
      · subst hd; simp [chunks, chunksFrom, closeChunk]
      · simp [chunks, chunksFrom, hc, hd, closeChunk]

theorem split_digits (r : List Char) : ∃ ds tail, r = ds ++ tail ∧ (∀ c ∈ ds, c.isDigit = true) ∧
    headDigit tail = false := by
  refine ⟨r.takeWhile Char.isDigit, r.dropWhile Char.isDigit, List.takeWhile_append_dropWhile.symm,
    List.all_eq_true.1 List.all_takeWhile, ?_⟩
  have := List.head?_dropWhile_not Char.isDigit r
  cases h : r.dropWhile Char.isDigit with
  | nil => rfl
  | cons c t => simpa [h, headDigit] using this

/-- Every text is built from: the empty text, `$$` in front, `$digits` in front (all the digits), any other
    character in front. -/
theorem chunk_ind {P : List Char → Prop} (nil : P [])
    (dd : ∀ r, P r → P ('$' :: '$' :: r))
    (ref : ∀ ds tail, ds ≠ [] → (∀ c ∈ ds, c.isDigit = true) → headDigit tail = false → P tail →
      P ('$' :: (ds ++ tail)))
    (char : ∀ c r, (c = '$' → headIs '$' r = false ∧ headDigit r = false) → P r → P (c :: r)) :
    ∀ s, P s := by
  intro s
  induction hn : s.length using Nat.strongRecOn generalizing s with
  | _ n ih =>
    subst hn
    have sub : ∀ t : List Char, t.length < s.length → P t := fun t h => ih _ h t rfl
    cases s with
    | nil => exact nil
    | cons c r =>
      by_cases hc : c = '$'
      · subst hc
        cases h2 : headIs '$' r with
        | true =>
          obtain ⟨r', rfl⟩ : ∃ r', r = '$' :: r' := by
            cases r with
            | nil => cases h2
            | cons d r' => exact ⟨r', by rw [of_decide_eq_true h2]⟩
          exact dd r' (sub r' (by simp; omega))
        | false =>
          -- `r = ds ++ tail` with all the leading digits in `ds`: none is the lone `$`, some is a reference
          obtain ⟨ds, tail, rfl, hds, ht⟩ := split_digits r
          by_cases hne : ds = []
          · subst hne; exact char _ _ (fun _ => ⟨h2, ht⟩) (sub _ (by simp))
          · exact ref ds tail hne hds ht (sub tail (by simp; omega))
      · exact char c r (fun e => absurd e hc) (sub r (by simp))

theorem renderAll_pushChar (ins mid : List Char) (tags : List (List Char)) (c : Char) (cs : List Chunk) :
    renderAll ins mid tags (pushChar c cs) = cons? c (renderAll ins mid tags cs) := by
  cases cs with
  | nil => rfl
  | cons x cs =>
    cases x with
    | text s => simp only [pushChar, renderAll, renderOpt]; exact (cons?_app? _ _ _).symm
    | dd => simp only [pushChar, renderAll, renderOpt]; exact app?_single _ _
    | ref ds => simp only [pushChar, renderAll, renderOpt]; exact app?_single _ _

theorem raw_pushChar (c : Char) (cs : List Chunk) :
    ((pushChar c cs).map raw).flatten = c :: (cs.map raw).flatten := by
  cases cs with
  | nil => rfl
  | cons x cs => cases x <;> rfl

theorem mem_pushChar_ref {ds : List Char} {c : Char} {cs : List Chunk}
    (h : Chunk.ref ds ∈ pushChar c cs) : Chunk.ref ds ∈ cs := by
  cases cs with
  | nil => simp [pushChar] at h
  | cons x cs => cases x <;> simpa [pushChar] using h

theorem emitRef_inRange (mid : List Char) (tags : List (List Char)) (ds : List Char)
    (h : InRange tags.length ds) :
    emitRef mid tags ds = some ("Dollar[".toList ++ ds ++ mid ++ (tags[atoi ds - 1]?).getD []) := by
  obtain ⟨h1, h2⟩ := h
  have h0 : atoi ds ≠ 0 := by omega
  have hlt : atoi ds - 1 < tags.length := by omega
  simp [emitRef, h0, List.getElem?_eq_getElem hlt]

theorem emitRef_outOfRange (mid : List Char) (tags : List (List Char)) (ds : List Char)
    (h : ¬ InRange tags.length ds) : emitRef mid tags ds = none := by
  unfold emitRef
  by_cases h0 : atoi ds = 0
  · simp [h0]
  · have hge : tags.length ≤ atoi ds - 1 := by
      unfold InRange at h; omega
    simp [h0, List.getElem?_eq_none hge]

theorem renderAll_inRange (ins mid : List Char) (tags : List (List Char)) :
    ∀ (cs : List Chunk), (∀ ds, Chunk.ref ds ∈ cs → InRange tags.length ds) →
      renderAll ins mid tags cs = some ((cs.map (render ins mid tags)).flatten)
  | [], _ => rfl
  | x :: cs, h => by
    have ih := renderAll_inRange ins mid tags cs (fun ds hd => h ds (by simp [hd]))
    have hx : renderOpt ins mid tags x = some (render ins mid tags x) := by
      cases x with
      | text s => rfl
      | dd => rfl
      | ref ds => exact emitRef_inRange mid tags ds (h ds (by simp))
    simp [renderAll, hx, ih, app?]

theorem renderAll_refuses (ins mid : List Char) (tags : List (List Char)) (ds : List Char)
    (hk : ¬ InRange tags.length ds) :
    ∀ (cs : List Chunk), Chunk.ref ds ∈ cs → renderAll ins mid tags cs = none
  | [], h => by simp at h
  | x :: cs, h => by
    rcases List.mem_cons.1 h with e | h'
    · subst e
      simp only [renderAll, renderOpt, emitRef_outOfRange mid tags ds hk]
      cases renderAll ins mid tags cs <;> rfl
    · simp only [renderAll, renderAll_refuses ins mid tags ds hk cs h']
      exact app?_none_right _

/-- What is needed of the text inserted for `$$` so that the regexp pass — which runs over the inserted
    text too — leaves it alone: no `$` in it, and it is nonempty and does not start with a digit (so it ends
    a preceding `$digits` match and cannot extend it). -/
structure InsOK (ins : List Char) : Prop where
  clean : ∀ c ∈ ins, c ≠ '$'
  head : headDigit ins = false
  ne : ins ≠ []

theorem substL_chunks (ins mid : List Char) (tags : List (List Char)) (hi : InsOK ins) :
    ∀ code, substL ins mid tags code = renderAll ins mid tags (chunks code) := by
  unfold substL refPass replaceDD
  apply chunk_ind
  · rfl
  · intro r ih
    rw [replaceAll2_hit, scan_clean _ ins _ hi.clean, ih, chunks_dd]; rfl
  · intro ds tail hne hds ht ih
    have hclean : ∀ c ∈ ds, c ≠ '$' := fun c hc => isDigit_ne_dollar (hds c hc)
    have hhead : headIs '$' (ds ++ tail) = false := by
      cases ds with
      | nil => exact absurd rfl hne
      | cons d ds => simpa [headIs] using hclean d (by simp)
    rw [replaceAll2_miss _ _ _ _ _ (fun _ => hhead), replaceAll2_clean _ _ _ ds tail hclean,
      scan_ref _ ds _ hne hds (headDigit_replace _ _ ins hi.head hi.ne tail ht), ih, chunks_ref ds tail hne hds ht]
    rfl
  · intro c r hc ih
    rw [replaceAll2_miss _ _ _ c r (fun e => (hc e).1), chunks_char c r hc, renderAll_pushChar, ← ih]
    by_cases he : c = '$'
    · subst he
      exact scan_dollar_plain _ _ (headDigit_replace _ _ ins hi.head hi.ne r (hc rfl).2)
    · exact scan_char _ c _ he

/-- `p ++ tag` for a prefix `p = c :: t` given by a literal: `e` is `String.toList_ofList`
    (on literals and `toList` see the last section). -/
theorem insOK_prefix {p t tag : List Char} {c : Char} (e : p = c :: t) (hc : c.isDigit = false)
    (hp : ∀ x ∈ c :: t, x ≠ '$') (h : '$' ∉ tag) : InsOK (p ++ tag) := by
  subst e
  exact ⟨fun x hx => (List.mem_append.1 hx).elim (hp x) fun hx e => h (e ▸ hx), hc, by simp⟩

theorem insOK_go (tag : List Char) (h : '$' ∉ tag) : InsOK (ddGo tag) :=
  insOK_prefix String.toList_ofList (by decide) (by decide) h

theorem insOK_ts (tag : List Char) (h : '$' ∉ tag) : InsOK (ddTs tag) :=
  insOK_prefix String.toList_ofList (by decide) (by decide) h

theorem chunks_raw : ∀ code, ((chunks code).map raw).flatten = code := by
  apply chunk_ind
  · rfl
  · intro r ih; rw [chunks_dd]; simp [raw, ih]
  · intro ds tail hne hds ht ih; rw [chunks_ref ds tail hne hds ht]; simp [raw, ih]
  · intro c r hc ih; rw [chunks_char c r hc, raw_pushChar, ih]

theorem chunks_ref_digits : ∀ code ds, Chunk.ref ds ∈ chunks code → ds ≠ [] ∧ ∀ c ∈ ds, c.isDigit = true := by
  apply chunk_ind
  · intro ds h; simp [chunks_nil] at h
  · intro r ih ds h; rw [chunks_dd] at h; exact ih ds (by simpa using h)
  · intro ds tail hne hds ht ih ds' h
    rw [chunks_ref ds tail hne hds ht] at h
    rcases List.mem_cons.1 h with e | h
    · cases e; exact ⟨hne, hds⟩
    · exact ih ds' h
  · intro c r hc ih ds h; rw [chunks_char c r hc] at h; exact ih ds (mem_pushChar_ref h)

theorem substL_inRange (ins mid : List Char) (tags : List (List Char)) (hi : InsOK ins) (code : List Char)
    (hR : ∀ ds, Chunk.ref ds ∈ chunks code → InRange tags.length ds) :
    substL ins mid tags code = some (((chunks code).map (render ins mid tags)).flatten) := by
  rw [substL_chunks ins mid tags hi, renderAll_inRange ins mid tags _ hR]

theorem substL_refuses (ins mid : List Char) (tags : List (List Char)) (hi : InsOK ins) (code ds : List Char)
    (h : Chunk.ref ds ∈ chunks code) (hk : atoi ds = 0 ∨ tags.length < atoi ds) :
    substL ins mid tags code = none := by
  rw [substL_chunks ins mid tags hi]
  exact renderAll_refuses ins mid tags ds (by unfold InRange; omega) _ h

/-- No hypothesis on the inserted text here. -/
theorem substL_plain (ins mid : List Char) (tags : List (List Char)) (code : List Char) (h : '$' ∉ code) :
    substL ins mid tags code = some code := by
  have hc : ∀ c ∈ code, c ≠ '$' := fun c hc e => h (e ▸ hc)
  unfold substL refPass replaceDD
  have h1 := replaceAll2_clean '$' '$' ins code [] hc
  have h2 := scan_clean (emitRef mid tags) code [] hc
  simp only [List.append_nil, replaceAll2_nil] at h1 h2
  rw [h1, h2]; simp [scan_nil, app?]

theorem substL_no_dollar (ins mid : List Char) (tags : List (List Char)) (hi : InsOK ins) (hmid : '$' ∉ mid)
    (htags : ∀ t ∈ tags, '$' ∉ t) (code : List Char)
    (hR : ∀ ds, Chunk.ref ds ∈ chunks code → InRange tags.length ds)
    (hT : ∀ s, Chunk.text s ∈ chunks code → '$' ∉ s) :
    ∃ out, substL ins mid tags code = some out ∧ '$' ∉ out := by
  refine ⟨_, substL_inRange ins mid tags hi code hR, fun h => ?_⟩
  obtain ⟨l, hl, hin⟩ := List.mem_flatten.1 h
  obtain ⟨x, hx, rfl⟩ := List.mem_map.1 hl
  cases x with
  | text s => exact hT s hx hin
  | dd => exact hi.clean _ hin rfl
  | ref ds =>
    have hin : '$' ∈ "Dollar[".toList ++ ds ++ mid ++ (tags[atoi ds - 1]?).getD [] := hin
    simp only [List.mem_append] at hin
    rcases hin with ((h0 | h1) | h2) | h3
    · exact absurd h0 (by decide)
    · exact isDigit_ne_dollar ((chunks_ref_digits code ds hx).2 _ h1) rfl
    · exact hmid h2
    · cases e : tags[atoi ds - 1]? with
      | none => simp [e] at h3
      | some t => exact htags t (List.mem_of_getElem? e) (by simpa [e] using h3)

theorem hasPair_cons (a b c : Char) (z : List Char) :
    hasPair a b (c :: z) = ((decide (c = a) && headIs b z) || hasPair a b z) := by
  cases z <;> simp [hasPair, headIs]

theorem hasPair_iff (a b : Char) : ∀ (s : List Char), hasPair a b s = true ↔ ∃ x y, s = x ++ a :: b :: y
  | [] => by simp [hasPair]
  | c :: z => by
    rw [hasPair_cons, Bool.or_eq_true, Bool.and_eq_true, decide_eq_true_eq, hasPair_iff a b z]
    constructor
    · rintro (⟨rfl, h⟩ | ⟨x, y, rfl⟩)
      · cases z with
        | nil => cases h
        | cons d y => exact ⟨[], y, by rw [of_decide_eq_true h]; rfl⟩
      · exact ⟨c :: x, y, rfl⟩
    · rintro ⟨x, y, e⟩
      cases x with
      | nil => cases e; exact .inl ⟨rfl, by simp [headIs]⟩
      | cons x0 x => cases e; exact .inr ⟨x, y, rfl⟩

theorem hasPair_snoc (a b c : Char) (hc : c ≠ b) :
    ∀ (x : List Char), hasPair a b x = false → hasPair a b (x ++ [c]) = false
  | [], _ => rfl
  | d :: z, hx => by
    rw [hasPair_cons, Bool.or_eq_false_iff] at hx
    rw [List.cons_append, hasPair_cons, hasPair_snoc a b c hc z hx.2, Bool.or_false]
    cases z with
    | nil => simp [headIs, hc]
    | cons e r => exact hx.1

def starIns : List Char := ['*', ' ', '/']

theorem head_replaceStar (d : Char) (r : List Char)
    (h : headIs '/' (replaceAll2 '*' '/' starIns (d :: r)) = true) : d = '/' := by
  cases r with
  | nil => simpa [replaceAll2, headIs] using h
  | cons e r =>
    by_cases hh : d = '*' ∧ e = '/'
    · simp [replaceAll2, hh, starIns, headIs] at h
    · simpa [replaceAll2, hh, headIs] using h

/-- `ReplaceAll(s, "*/", "* /")` leaves no `*/` (also on `**/`, `*/*/`, …): a `*` that is kept is followed by
    what the rest becomes, and that starts with `/` only if the rest does (`head_replaceStar`). -/
theorem hasPair_replaceStar : ∀ (s : List Char), hasPair '*' '/' (replaceAll2 '*' '/' starIns s) = false
  | [] => rfl
  | [_] => rfl
  | c :: d :: rest => by
    by_cases h : c = '*' ∧ d = '/'
    · simpa [replaceAll2, h, starIns, hasPair_cons, headIs] using hasPair_replaceStar rest
    · have hh := head_replaceStar d rest
      simp only [replaceAll2, h, if_false, hasPair_cons, hasPair_replaceStar (d :: rest), Bool.or_false,
        Bool.and_eq_false_iff, decide_eq_false_iff_not]
      by_cases hc : c = '*'
      · exact .inr (Bool.eq_false_iff.2 fun hy => h ⟨hc, hh hy⟩)
      · exact .inl hc

/-- If `body ++ "*"` has no `*/`, then `body ++ "*/\n"` contains `*/` only at its end. -/
theorem closed_unique (body x y : List Char) (hb : hasPair '*' '/' (body ++ ['*']) = false)
    (e : body ++ ['*', '/', '\n'] = x ++ '*' :: '/' :: y) : y = ['\n'] := by
  rcases List.append_eq_append_iff.1 e with ⟨as, h1, h2⟩ | ⟨bs, h1, h2⟩
  · -- `x` reaches into the closing `*/\n`
    match as, h2 with
    | [], h2 => simpa using h2.symm
    | [_], h2 => simp at h2
    | [_, _], h2 => simp at h2
    | _ :: _ :: _ :: _, h2 => simp at h2
  · -- the `*/` starts inside `body`, or is its last character and the closing `*`
    match bs, h2 with
    | [], h2 => simpa using h2
    | [_], h2 => simp at h2
    | _ :: _ :: bs, h2 =>
      simp only [List.cons_append, List.cons.injEq] at h2
      obtain ⟨rfl, rfl, _⟩ := h2
      have := (hasPair_iff '*' '/' (body ++ ['*'])).2 ⟨x, bs ++ ['*'], by rw [h1]; simp⟩
      rw [hb] at this; cases this

/-- The comment is `body ++ "*/\n"` where no `*/` starts inside `body` (not even one using the closing `*`),
    so every decomposition `x ++ "*/" ++ y` of it has `y = "\n"`. -/
theorem commentL_closed (lineNo : Nat) (lhsName : List Char) (rhsNames : List (List Char)) (code : List Char) :
    (∃ body, commentL lineNo lhsName rhsNames code = body ++ ['*', '/', '\n'] ∧
      hasPair '*' '/' (body ++ ['*']) = false) ∧
    ∀ x y, commentL lineNo lhsName rhsNames code = x ++ '*' :: '/' :: y → y = ['\n'] := by
  have e : commentL lineNo lhsName rhsNames code = ['\n', '/', '*', '\n'] ++
      replaceAll2 '*' '/' starIns (commentBodyL lineNo lhsName rhsNames code) ++ ['*', '/', '\n'] := by
    unfold commentL
    rw [show "\n/*\n".toList = ['\n', '/', '*', '\n'] from String.toList_ofList,
      show "* /".toList = starIns from String.toList_ofList,
      show "*/\n".toList = ['*', '/', '\n'] from String.toList_ofList]
  have hb : hasPair '*' '/' (['\n', '/', '*', '\n'] ++
      replaceAll2 '*' '/' starIns (commentBodyL lineNo lhsName rhsNames code) ++ ['*']) = false := by
    simpa [hasPair_cons, headIs] using hasPair_snoc '*' '/' '*' (by decide) _
      (hasPair_replaceStar (commentBodyL lineNo lhsName rhsNames code))
  rw [e]
  exact ⟨⟨_, rfl, hb⟩, fun x y hxy => closed_unique _ x y hb hxy⟩

/-- **Chunk view, general form** (no range hypothesis): the Go generator's rewriting of an action is the
    chunk-wise rendering, `none` (panic) included.  Hypothesis: the tag of the left-hand side contains no
    `$` (the regexp pass runs over the inserted text too).  Tags are `identifier` tokens in the grammar
    file (letters, digits, `_`), so the hypothesis holds for every grammar the front end accepts. -/
theorem C07_subst_chunks_opt (lhsTag : String) (rhsTags : List String) (code : String)
    (hTag : '$' ∉ lhsTag.toList) :
    substGo lhsTag rhsTags code =
      (renderAll (ddGo lhsTag.toList) midGo (rhsTags.map String.toList) (chunks code.toList)).map
        String.ofList := by
  unfold substGo substGoL; rw [substL_chunks _ _ _ (insOK_go _ hTag)]

theorem C07_subst_chunks_opt_ts (lhsTag : String) (rhsTags : List String) (code : String)
    (hTag : '$' ∉ lhsTag.toList) :
    substTs lhsTag rhsTags code =
      (renderAll (ddTs lhsTag.toList) midTs (rhsTags.map String.toList) (chunks code.toList)).map
        String.ofList := by
  unfold substTs substTsL; rw [substL_chunks _ _ _ (insOK_ts _ hTag)]

/-- When every reference `$k` of the action has `1 ≤ k ≤ n`, the emitted action is the
    concatenation of the rendered chunks. -/
theorem C07_subst_chunks (lhsTag : String) (rhsTags : List String) (code : String)
    (hTag : '$' ∉ lhsTag.toList)
    (hR : ∀ ds, Chunk.ref ds ∈ chunks code.toList → InRange rhsTags.length ds) :
    substGo lhsTag rhsTags code = some (String.ofList
      (((chunks code.toList).map (renderGo lhsTag.toList (rhsTags.map String.toList))).flatten)) := by
  unfold substGo substGoL
  rw [substL_inRange _ _ _ (insOK_go _ hTag) _ (by simpa using hR)]; rfl

theorem C07_subst_chunks_ts (lhsTag : String) (rhsTags : List String) (code : String)
    (hTag : '$' ∉ lhsTag.toList)
    (hR : ∀ ds, Chunk.ref ds ∈ chunks code.toList → InRange rhsTags.length ds) :
    substTs lhsTag rhsTags code = some (String.ofList
      (((chunks code.toList).map (renderTs lhsTag.toList (rhsTags.map String.toList))).flatten)) := by
  unfold substTs substTsL
  rw [substL_inRange _ _ _ (insOK_ts _ hTag) _ (by simpa using hR)]; rfl

/-- The action text is the concatenation of its chunks (`raw`), the output is the
    concatenation of the rendered chunks in the same order, and a text chunk is rendered as itself — the text
    outside the references is copied verbatim and in order. -/
theorem C07_subst_verbatim (lhsTag : String) (rhsTags : List String) (code : String)
    (hTag : '$' ∉ lhsTag.toList)
    (hR : ∀ ds, Chunk.ref ds ∈ chunks code.toList → InRange rhsTags.length ds) :
    code.toList = ((chunks code.toList).map raw).flatten ∧
    (∃ out, substGo lhsTag rhsTags code = some out ∧
      out.toList = ((chunks code.toList).map (renderGo lhsTag.toList (rhsTags.map String.toList))).flatten) ∧
    ∀ s, renderGo lhsTag.toList (rhsTags.map String.toList) (.text s) = s ∧ raw (.text s) = s :=
  ⟨(chunks_raw _).symm, ⟨_, C07_subst_chunks lhsTag rhsTags code hTag hR, String.toList_ofList⟩,
    fun _ => ⟨rfl, rfl⟩⟩

theorem C07_subst_verbatim_ts (lhsTag : String) (rhsTags : List String) (code : String)
    (hTag : '$' ∉ lhsTag.toList)
    (hR : ∀ ds, Chunk.ref ds ∈ chunks code.toList → InRange rhsTags.length ds) :
    code.toList = ((chunks code.toList).map raw).flatten ∧
    (∃ out, substTs lhsTag rhsTags code = some out ∧
      out.toList = ((chunks code.toList).map (renderTs lhsTag.toList (rhsTags.map String.toList))).flatten) ∧
    ∀ s, renderTs lhsTag.toList (rhsTags.map String.toList) (.text s) = s ∧ raw (.text s) = s :=
  ⟨(chunks_raw _).symm, ⟨_, C07_subst_chunks_ts lhsTag rhsTags code hTag hR, String.toList_ofList⟩,
    fun _ => ⟨rfl, rfl⟩⟩

/-- Corollary: an action without `$` is emitted unchanged (no hypothesis on the tags). -/
theorem C07_subst_plain (lhsTag : String) (rhsTags : List String) (code : String)
    (h : '$' ∉ code.toList) : substGo lhsTag rhsTags code = some code := by
  unfold substGo substGoL; rw [substL_plain _ _ _ _ h]; simp [String.ofList_toList]

theorem C07_subst_plain_ts (lhsTag : String) (rhsTags : List String) (code : String)
    (h : '$' ∉ code.toList) : substTs lhsTag rhsTags code = some code := by
  unfold substTs substTsL; rw [substL_plain _ _ _ _ h]; simp [String.ofList_toList]

/-- A reference `$k` with `k = 0` or `k > n` makes the generator refuse (the Go code
    panics with "index out of range") — nothing is emitted. -/
theorem C07_subst_refuses (lhsTag : String) (rhsTags : List String) (code : String)
    (hTag : '$' ∉ lhsTag.toList) (ds : List Char) (h : Chunk.ref ds ∈ chunks code.toList)
    (hk : atoi ds = 0 ∨ rhsTags.length < atoi ds) : substGo lhsTag rhsTags code = none := by
  unfold substGo substGoL
  rw [substL_refuses _ _ _ (insOK_go _ hTag) _ ds h (by simpa using hk)]; rfl

theorem C07_subst_refuses_ts (lhsTag : String) (rhsTags : List String) (code : String)
    (hTag : '$' ∉ lhsTag.toList) (ds : List Char) (h : Chunk.ref ds ∈ chunks code.toList)
    (hk : atoi ds = 0 ∨ rhsTags.length < atoi ds) : substTs lhsTag rhsTags code = none := by
  unfold substTs substTsL
  rw [substL_refuses _ _ _ (insOK_ts _ hTag) _ ds h (by simpa using hk)]; rfl

/-- If moreover no tag contains `$` and every `$` of the action belongs to a
    reference (no text chunk contains `$`), the emitted action is `$`-free. -/
theorem C07_subst_no_dollar (lhsTag : String) (rhsTags : List String) (code : String)
    (hTag : '$' ∉ lhsTag.toList) (hTags : ∀ t ∈ rhsTags, '$' ∉ t.toList)
    (hR : ∀ ds, Chunk.ref ds ∈ chunks code.toList → InRange rhsTags.length ds)
    (hT : ∀ s, Chunk.text s ∈ chunks code.toList → '$' ∉ s) :
    ∃ out, substGo lhsTag rhsTags code = some out ∧ '$' ∉ out.toList := by
  obtain ⟨out, h1, h2⟩ := substL_no_dollar (ddGo lhsTag.toList) midGo (rhsTags.map String.toList)
    (insOK_go _ hTag) (by decide) (by simpa using hTags) code.toList (by simpa using hR) hT
  refine ⟨String.ofList out, ?_, by rwa [String.toList_ofList]⟩
  unfold substGo substGoL; rw [h1]; rfl

theorem C07_subst_no_dollar_ts (lhsTag : String) (rhsTags : List String) (code : String)
    (hTag : '$' ∉ lhsTag.toList) (hTags : ∀ t ∈ rhsTags, '$' ∉ t.toList)
    (hR : ∀ ds, Chunk.ref ds ∈ chunks code.toList → InRange rhsTags.length ds)
    (hT : ∀ s, Chunk.text s ∈ chunks code.toList → '$' ∉ s) :
    ∃ out, substTs lhsTag rhsTags code = some out ∧ '$' ∉ out.toList := by
  obtain ⟨out, h1, h2⟩ := substL_no_dollar (ddTs lhsTag.toList) midTs (rhsTags.map String.toList)
    (insOK_ts _ hTag) (by decide) (by simpa using hTags) code.toList (by simpa using hR) hT
  refine ⟨String.ofList out, ?_, by rwa [String.toList_ofList]⟩
  unfold substTs substTsL; rw [h1]; rfl

/-- The comment the generator puts in front of the rewritten action (same function for
    Go and TypeScript) contains `*/` exactly once, as its last-but-one token: it is `body ++ "*/\n"` where
    no `*/` starts inside `body` (not even one using the closing `*`), so every decomposition
    `x ++ "*/" ++ y` of it has `y = "\n"`.  For all line numbers, names and action texts. -/
theorem comment_closed (lineNo : Nat) (lhsName : String) (rhsNames : List String) (code : String) :
    (∃ body, (commentOf lineNo lhsName rhsNames code).toList = body ++ ['*', '/', '\n'] ∧
      hasPair '*' '/' (body ++ ['*']) = false) ∧
    ∀ x y, (commentOf lineNo lhsName rhsNames code).toList = x ++ '*' :: '/' :: y → y = ['\n'] := by
  unfold commentOf; rw [String.toList_ofList]
  exact commentL_closed lineNo lhsName.toList (rhsNames.map String.toList) code.toList

/-- The same for the comment inside a generated `case` (the text `caseGoL`/`caseTsL` splice in). -/
theorem comment_closed_rule (r : RuleInfo) :
    (∃ body, r.commentL = body ++ ['*', '/', '\n'] ∧ hasPair '*' '/' (body ++ ['*']) = false) ∧
    ∀ x y, r.commentL = x ++ '*' :: '/' :: y → y = ['\n'] :=
  commentL_closed r.lineNo r.lhsName.toList r.names r.code.toList

/-! ## Non-vacuity and corner cases (all by evaluation)

The kernel evaluates `"…".toList`, `String.ofList` and `=` on `String` through the UTF-8 encoding, slowly
(`toList` in time quadratic in the length of the literal); the model itself works on `List Char`.  So an emitted
text is compared as a `List Char`: the expected literal is `String.ofList [c, …]` by unification (`ofList_some`,
`congrArg String.ofList`), and only the short inputs are decoded. -/

theorem ofList_some {x : Option (List Char)} {o : List Char} (h : x = some o) :
    x.map String.ofList = some (String.ofList o) := h ▸ rfl

example : chunks "$$ = $1 + $3".toList =
    [.dd, .text " = ".toList, .ref ['1'], .text " + ".toList, .ref ['3']] := by decide +kernel
example : substGo "val" ["val", "", "val"] "$$ = $1 + $3" =
    some "dollarDolar.val = Dollar[1].val + Dollar[3].val" := ofList_some (by decide +kernel)
example : substTs "val" ["val", "", "val"] "$$ = $1 + $3" =
    some "dollarDolar.ValType.val = Dollar[1].ValType.val + Dollar[3].ValType.val" :=
  ofList_some (by decide +kernel)
-- `$$` twice
example : substGo "v" ["s"] "$$ = f($$, $1)" = some "dollarDolar.v = f(dollarDolar.v, Dollar[1].s)" :=
  ofList_some (by decide +kernel)
-- `$10` with ten right-hand-side symbols (greedy digits: not `$1` followed by `0`)
example : substGo "v" ["a","b","c","d","e","f","g","h","i","j"] "$10+$1" =
    some "Dollar[10].j+Dollar[1].a" := ofList_some (by decide +kernel)
example : chunks "$10+$1".toList = [.ref ['1','0'], .text ['+'], .ref ['1']] := by decide +kernel
-- leading zeros are kept in the index text, `Atoi` ignores them
example : substGo "v" ["a"] "$01" = some "Dollar[01].a" := ofList_some (by decide +kernel)
-- `$0`, `$00`: refused
example : substGo "v" ["a","b","c"] "$$ = $0" = none := by decide +kernel
example : substTs "v" ["a","b","c"] "$$ = $00" = none := by decide +kernel
-- `$4` with n = 3: refused; `$3` accepted
example : substGo "v" ["a","b","c"] "$$ = $4 + $1" = none := by decide +kernel
example : substGo "v" ["a","b","c"] "$$ = $3" = some "dollarDolar.v = Dollar[3].c" :=
  ofList_some (by decide +kernel)
-- more digits than `int64` holds: refused (Go: Atoi clamps, index out of range)
example : substGo "v" ["a","b","c"] "$18446744073709551617" = none := by decide +kernel
-- the corners of the two passes: `$$1`, `$$$1`, `$$$`, `$1$$`, a lone `$`, `$a`
example : chunks "$$1".toList = [.dd, .text ['1']] := by decide +kernel
example : substGo "v" ["a"] "$$1" = some "dollarDolar.v1" := ofList_some (by decide +kernel)
example : chunks "$$$1".toList = [.dd, .ref ['1']] := by decide +kernel
example : substGo "v" ["a"] "$$$1" = some "dollarDolar.vDollar[1].a" := ofList_some (by decide +kernel)
example : chunks "$$$".toList = [.dd, .text ['$']] := by decide +kernel
example : substGo "v" ["a"] "$$$" = some "dollarDolar.v$" := ofList_some (by decide +kernel)
example : chunks "$1$$ $ $a".toList = [.ref ['1'], .dd, .text " $ $a".toList] := by decide +kernel
example : substGo "v" ["a"] "$1$$ $ $a" = some "Dollar[1].adollarDolar.v $ $a" :=
  ofList_some (by decide +kernel)
example : substGo "v" ["a"] "no refs here */ at all" = some "no refs here */ at all" :=
  ofList_some (by decide +kernel)

/-- The hypothesis `'$' ∉ lhsTag` of `C07_subst_chunks` cannot be dropped: with the tag `$1` the regexp pass
    rewrites inside the text inserted for `$$` … -/
example : substGo "$1" ["t"] "$$" = some "dollarDolar.Dollar[1].t" ∧
    ((chunks "$$".toList).map (renderGo "$1".toList ["t".toList])).flatten = "dollarDolar.$1".toList :=
  ⟨ofList_some (by decide +kernel), by decide +kernel⟩
/-- … with a tag ending in `$`, a digit that follows `$$` in the action is captured (`$$1` is "`$$` then the
    text `1`" in the chunk view) … -/
example : substGo "x$" ["t"] "$$1" = some "dollarDolar.xDollar[1].t" ∧
    ((chunks "$$1".toList).map (renderGo "x$".toList ["t".toList])).flatten = "dollarDolar.x$1".toList :=
  ⟨ofList_some (by decide +kernel), by decide +kernel⟩
/-- … and the generator can even panic on an action all of whose references are in range. -/
example : substGo "$7" ["t"] "$$ = $1" = none ∧
    (∀ ds, Chunk.ref ds ∈ chunks "$$ = $1".toList → InRange 1 ds) := by
  refine ⟨by decide +kernel, fun ds h => ?_⟩
  have hc : chunks "$$ = $1".toList = [.dd, .text " = ".toList, .ref ['1']] := by decide +kernel
  rw [hc] at h
  have : ds = ['1'] := by simpa using h
  subst this; exact ⟨by decide, by decide⟩

-- the comment: a `*/` in the action text cannot close it (`**/` and `*/*/` included)
example : commentOf 7 "E" ["E", "$operator+", "T"] "{ a */ b **/ c */*/ }" =
    "\n/*\n\nLineNo:7\nE -> E '+'  T \n { a * / b ** / c * /* / }\n*/\n" :=
  congrArg String.ofList (by decide +kernel)
example : removeTempName "$operator+" = "'+' " ∧ removeTempName "$operator" = "$operator" ∧
    removeTempName "NUM" = "NUM" := by decide +kernel
example : hasPair '*' '/' "x **/ y".toList = true ∧
    hasPair '*' '/' (replaceAll2 '*' '/' "* /".toList "x **/ y */*/".toList) = false := by decide +kernel

-- a whole case, both Go modes and TypeScript
def exRule : RuleInfo :=
  { lhsId := 16, lhsName := "E", lhsTag := "val", rhs := [("NUM", "val")], lineNo := 25,
    code := "{ $$ = $1 }" }
/-- concatenation of short literals (`String.toList` of a long literal is slow to evaluate in proofs) -/
def cat (l : List String) : List Char := (l.map String.toList).flatten
/-- `repeat rw [cat_cons_ofList]` turns `cat ["ab", …]` into `['a', 'b'] ++ …` without decoding a literal
    (`simp` does not see a literal as `String.ofList _`, `rw` does). -/
theorem cat_cons_ofList (a : List Char) (l : List String) : cat (String.ofList a :: l) = a ++ cat l := by
  simp [cat, String.toList_ofList]
set_option maxRecDepth 4000 in
example : caseGoL .global 3 exRule = some (cat
    ["case 3: \n", "\tdollarDolar.YySymIndex = 16\n", "\tDollar := StateSymStack[topIndex-1 :",
     " StackPointer]\n", "\t_ = Dollar\n", "\n/*\n", "\nLineNo:25\n", "E -> NUM \n", " { $$ = $1 }\n", "*/\n",
     "{ dollarDolar.val = Dollar[1].val }", "\n", "\tPopStateSym(1)\n"]) := by
  repeat rw [cat_cons_ofList]
  decide +kernel
set_option maxRecDepth 4000 in
example : caseGoL .object 3 exRule = some (cat
    ["case 3: \n", "\tdollarDolar.YySymIndex = 16\n", "\tDollar := c.StackSym[topIndex-1 :",
     " c.Stackpos]\n", "\t_ = Dollar\n", "\n/*\n", "\nLineNo:25\n", "E -> NUM \n", " { $$ = $1 }\n", "*/\n",
     "{ dollarDolar.val = Dollar[1].val }", "\n", "\tc.PopStateSym(1)\n"]) := by
  repeat rw [cat_cons_ofList]
  decide +kernel
set_option maxRecDepth 4000 in
example : caseTsL 3 exRule = some (cat
    ["case 3: {\n", "\tdollarDolar.YySymIndex = 16\n", "\tlet Dollar = StateSymStack.slice(",
     "topIndex-1 , StackPointer);\n", "\n/*\n", "\nLineNo:25\n", "E -> NUM \n", " { $$ = $1 }\n", "*/\n",
     "{ dollarDolar.ValType.val = ", "Dollar[1].ValType.val }", "\n", "\tPopStateSym(1);\n", "\tbreak;\n", "}\n"]) := by
  repeat rw [cat_cons_ofList]
  decide +kernel
-- one bad rule makes the whole `ReduceFunc` refuse
example : driverReduceFunc #[exRule, { exRule with code := "{ $$ = $2 }" }] .goGlobal = none ∧
    (driverReduceFunc #[exRule, exRule] .goGlobal).isSome = true ∧
    (driverReduceFunc #[exRule, exRule] .ts).isSome = true := by
  decide +kernel

#print axioms C07_subst_chunks_opt
#print axioms C07_subst_chunks_opt_ts
#print axioms C07_subst_chunks
#print axioms C07_subst_chunks_ts
#print axioms C07_subst_verbatim
#print axioms C07_subst_verbatim_ts
#print axioms C07_subst_plain
#print axioms C07_subst_plain_ts
#print axioms C07_subst_refuses
#print axioms C07_subst_refuses_ts
#print axioms C07_subst_no_dollar
#print axioms C07_subst_no_dollar_ts
#print axioms comment_closed
#print axioms comment_closed_rule
#print axioms hasPair_iff
#print axioms chunks_raw
#print axioms chunks_dd
#print axioms chunks_ref
#print axioms chunks_char

end Y.Props
