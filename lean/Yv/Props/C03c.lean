import Yv.Proofs.DigraphFacts
import Yv.Props.C03b
/-! # C03c — `Digraph` (the SCC-based traversal of DeRemer and Pennello) computes the least solution

`LALR/Digraph.go` computes the three set-valued closures of the lookahead computation (`Read` from `DR`
over `reads`, `Follow` from `Read` over `includes`, the lookahead sets from `Follow` over `lookback`)
with the classical routine `Digraph`/`Traverse`.  `Yv/Model/Digraph.lean` (`Y.DG`) is a functional
model of that routine, statement for statement (same scan order of `R`, same order of `X`, same
`Union`, nodes outside `X` are traversed when a pair leads to them, as with the auto-extending Go maps;
validated against the Go code on random inputs, element ORDER included).

## Theorems

* `digraph_total`  — `digraph X R Fp` returns for ALL inputs (the fuel `|X| + |R| + 1` bounds the
  recursion depth because every call marks an unmarked node among the roots and pair targets).
* `digraph_least` (MAIN) — if `digraph X R Fp = some F` then for every `x ∈ X`:
  `a ∈ F x ↔ ∃ y, Reach R x y ∧ a ∈ Fp y`, i.e. `F x` is, as a set, the least solution of
  `F x = Fp x ∪ ⋃ {F y | (x, y) ∈ R}`.  `digraph_least_reach` is the same for every node reachable
  from `X` (exactly the visited nodes); `digraph_sound` is the `→` direction for EVERY node.
  Hypothesis: `X.length + R.length < MaxInt` — the routine marks finished nodes with `N = MaxInt`
  and stacked ones with their stack depth, so the depth (at most the number of distinct nodes, at most
  `|X| + |R|`) must stay below `MaxInt`.  (Always true for Go slices.)
* `digraph_eq_solve` — when `Y.DP.solve fuel init rel = some sol`, `digraph X rel (init.getD · [])`
  has the same elements as `sol` at every `x ∈ X`.
* `C03_dp_digraph` — `stagesDG` (the stages with `Digraph` for the three closures, as `CalcReadSet`,
  `CalcFollowSet`, `CalcLookAheadSet` call it) and `stagesWith` have the same transitions and
  relations and the same `Read`/`Follow`/lookahead SETS.  Hypotheses: `dgSizeOK` (the size bound for
  the three calls) and `dpStartOK` (transition 0 is `(0, S₀)`; otherwise `$` would be attached to a
  reduce transition if that is what transition 0 is, and `CalcLookAheadSet`'s `Digraph` would — unlike
  `laOf` — also copy that transition's own `FollowSet` entry).
* `C03_dp_digraph_exact` — hence (directly, without reference to `stagesWith`; `stagesDG_total`) the
  lookaheads `stagesDG` attaches to `(q, r)` are exactly the LALR(1) lookaheads `LA`.
* `C03_dg_lines_eq` — `laLinesDG = laLinesDPWith` (as lists) whenever `stagesWith` returns.

The proof of `digraph_least` is in `Yv/Proofs/DigraphFacts.lean`: a state invariant `Inv` (the stack is
duplicate-free and, per node (`Node`): on the stack iff `0 < N < MaxInt`; there `N u ≤ rank u`, `u` reaches
a stack node of rank `≤ N u` and `F u ⊇ Fp u`; `F` sound everywhere, complete and edge-closed on finished
nodes) and a Hoare-style specification of `traverse` (`Post`: stack discipline, frame, and for the segment
left on the stack (`Done`): every node reaches `x`, `N x ≤ N u`, `F u ⊆ F x`, every pair `(u, w)` leads to a
finished `w` with `F w ⊆ F u` or to a stack node of rank `≥ N u`).  When `N x = d` the segment above `x` is
closed under `R` up to finished nodes, which gives completeness of `F x` for the whole segment.

## What the model does NOT cover

Lists are values in the model.  The Go routine shares memory: `Traverse` assigns `F[top] = F[x]` (ONE
slice) to all members of a component, and `CalcFollowSet` uses the `ReadSet` entries as `FP`, so result
sets of different nodes can have the same backing array — which the model cannot express.  This is
faithful as long as no result set is changed in place, and `Union` (`LALR/Digraph.go`) builds its
result in a fresh slice and never appends to an argument; a `Union` that appended to its second
argument in place would let the sets of a nontrivial component overwrite one another, and the
theorems here would say nothing about it. -/
namespace Y.Props
open Y Y.DP Y.DGP

theorem digraph_total (X : List Nat) (R : List (Nat × Nat)) (Fp : Nat → List Nat) :
    ∃ F, DG.digraph X R Fp = some F :=
  DG.digraph_total X R Fp

theorem digraph_sound (X : List Nat) (R : List (Nat × Nat)) (Fp F : Nat → List Nat)
    (hlen : X.length + R.length < DG.inf) (h : DG.digraph X R Fp = some F) (u a : Nat)
    (ha : a ∈ F u) : ∃ y, DG.Reach R u y ∧ a ∈ Fp y :=
  DG.digraph_sound hlen h u a ha

theorem digraph_least_reach (X : List Nat) (R : List (Nat × Nat)) (Fp F : Nat → List Nat)
    (hlen : X.length + R.length < DG.inf) (h : DG.digraph X R Fp = some F)
    (x : Nat) (hx : x ∈ X) (u : Nat) (hu : DG.Reach R x u) (a : Nat) :
    a ∈ F u ↔ ∃ y, DG.Reach R u y ∧ a ∈ Fp y :=
  DG.digraph_least_reach hlen h hx hu a

theorem digraph_least (X : List Nat) (R : List (Nat × Nat)) (Fp F : Nat → List Nat)
    (hlen : X.length + R.length < DG.inf) (h : DG.digraph X R Fp = some F)
    (x : Nat) (hx : x ∈ X) (a : Nat) :
    a ∈ F x ↔ ∃ y, DG.Reach R x y ∧ a ∈ Fp y :=
  DG.digraph_least hlen h hx a

theorem digraph_eq_solve (fuel : Nat) (init : List (List Sym)) (rel : List (Nat × Nat))
    (sol : List (List Sym)) (X : List Nat) (F : Nat → List Nat)
    (hs : solve fuel init rel = some sol)
    (hd : DG.digraph X rel (fun i => init.getD i []) = some F)
    (hlen : X.length + rel.length < DG.inf) (x : Nat) (hx : x ∈ X) (a : Sym) :
    a ∈ F x ↔ a ∈ sol.getD x [] :=
  (DG.digraph_least hlen hd hx a).trans (solve_spec hs x a).symm

theorem stagesDG_total (G : Grammar) (A : Auto) (nl : List Sym) :
    ∃ sd, DG.stagesDG G A nl = some sd := by
  unfold DG.stagesDG
  obtain ⟨rd, hrd⟩ := digraph_total (DG.keysOf G (trans G A)) (readsRel G nl (trans G A))
    (fun i => (dr G (trans G A)).getD i [])
  obtain ⟨fo, hfo⟩ := digraph_total (DG.keysOf G (trans G A)) (includesRel G A nl (trans G A)) rd
  obtain ⟨la, hla⟩ := digraph_total (DG.redsOf (trans G A)) (lookbackRel G A (trans G A)) fo
  simp only [hrd, hfo, hla]
  exact ⟨_, rfl⟩

theorem C03_dp_digraph (G : Grammar) (A : Auto) (nl : List Sym) (st sd : Stages)
    (hsz : DG.dgSizeOK G A nl = true) (hS : dpStartOK G A = true)
    (hst : stagesWith G A nl = some st) (hsd : DG.stagesDG G A nl = some sd) :
    sd.trans = st.trans ∧ sd.dr = st.dr ∧ sd.reads = st.reads ∧ sd.includes = st.includes ∧
    sd.lookback = st.lookback ∧
    (∀ i a, a ∈ sd.read.getD i [] ↔ a ∈ st.read.getD i []) ∧
    (∀ i a, a ∈ sd.follow.getD i [] ↔ a ∈ st.follow.getD i []) ∧
    (∀ x a, a ∈ sd.la.getD x [] ↔ a ∈ st.la.getD x []) ∧
    (∀ q r a, a ∈ sd.laGet q r ↔ a ∈ st.laGet q r) := by
  obtain ⟨h1, h2, h3⟩ := stagesDG_sets hsz hS hsd
  obtain ⟨rd, fo, hrd, hfo, rfl⟩ := stagesWith_some hst
  obtain ⟨rd', fo', la', _, _, _, hsd'⟩ := stagesDG_some hsd
  have e1 : sd.trans = trans G A := by rw [hsd']
  have hread : ∀ i a, a ∈ sd.read.getD i [] ↔ a ∈ rd.getD i [] :=
    fun i a => (h1 i a).trans (solve_spec hrd i a).symm
  have hfol : ∀ i a, a ∈ sd.follow.getD i [] ↔ a ∈ fo.getD i [] :=
    fun i a => ((h2 i a).trans (Sol.congr hread i a)).trans (solve_spec hfo i a).symm
  have hla : ∀ x a, a ∈ sd.la.getD x [] ↔
      a ∈ ((trans G A).zipIdx.map fun tx =>
        laOf (lookbackRel G A (trans G A)) fo tx.2 tx.1).getD x [] := by
    intro x a
    cases hx : (trans G A)[x]? with
    | none =>
      have hge := List.getElem?_eq_none_iff.mp hx
      rw [List.getD_eq_getElem?_getD, List.getD_eq_getElem?_getD,
        List.getElem?_eq_none (by rw [hsd']; simpa using hge),
        List.getElem?_eq_none (by simpa using hge)]
    | some t =>
      rw [h3 x t hx a, List.getD_eq_getElem?_getD (l := List.map _ _), getElem?_map_zipIdx, hx]
      exact laOf_congr hfol x t a
  refine ⟨e1, by rw [hsd'], by rw [hsd'], by rw [hsd'], by rw [hsd'], hread, hfol, hla, fun q r a => ?_⟩
  simp only [Stages.laGet, e1]
  cases redIdx (trans G A) q r with
  | none => exact Iff.rfl
  | some x => exact hla x a

theorem C03_dp_digraph_exact (G : Grammar) (nS : Nat) (A : Auto) (nl : List Sym) (sd : Stages)
    (hG : gramWF G nS = true) (hA : certA G A = true) (hC : certCanon G A = true)
    (hP : prodOK G nS = true) (hS : dpStartOK G A = true) (hN : nullExactB G nS nl = true)
    (hsz : DG.dgSizeOK G A nl = true) (hsd : DG.stagesDG G A nl = some sd)
    (q r : Nat) (hit : (⟨r, (G.rhsOf r).length⟩ : Item) ∈ A.its q) (a : Sym) :
    a ∈ sd.laGet q r ↔ LA G A.goto q ⟨r, (G.rhsOf r).length⟩ a := by
  have h : MH G nS A nl := ⟨dph_of_certs hG hA hC hP, nullExactB_ok hN, hS⟩
  obtain ⟨h1, h2, h3⟩ := stagesDG_sets hsz hS hsd
  obtain ⟨rd', fo', la', _, _, _, hsd'⟩ := stagesDG_some hsd
  have e1 : sd.trans = trans G A := by rw [hsd']
  obtain ⟨x, hx⟩ := redIdx_of_mem (trans_of_item (its_lt hit) hit)
  obtain ⟨u, hxu, rfl, hku⟩ := redIdx_some hx
  simp only [Stages.laGet, e1, hx]
  exact ((h3 x u hxu a).trans (mem_laOf h h1 h2 hxu hku a)).trans
    (C03_dp_declarative G nS A hG hA hC hP u.q r hit a)

theorem C03_dg_lines_eq (G : Grammar) (A : Auto) (nl : List Sym) (st : Stages)
    (hsz : DG.dgSizeOK G A nl = true) (hS : dpStartOK G A = true)
    (hst : stagesWith G A nl = some st) :
    DG.laLinesDG G A nl = laLinesDPWith G A nl := by
  obtain ⟨sd, hsd⟩ := stagesDG_total G A nl
  rw [DG.laLinesDG, laLinesDPWith, hsd, hst]
  exact congrArg some (linesOf_congr fun q r _ a =>
    (C03_dp_digraph G A nl st sd hsz hS hst hsd).2.2.2.2.2.2.2.2 q r a)

/-! ## Non-vacuity -/

/-- run `digraph` with `Fp` given as a list and tabulate the result on `0 … n-1` -/
def dgRun (X : List Nat) (R : List (Nat × Nat)) (fp : List (List Nat)) (n : Nat) :
    Option (List (List Nat)) :=
  (DG.digraph X R (fun i => fp.getD i [])).map fun F => (List.range n).map F

/-- a 2-cycle -/
example : dgRun [0, 1] [(0, 1), (1, 0)] [[10], [11]] 2 = some [[10, 11], [10, 11]] := by decide +kernel

/-- a 3-cycle with an exit to node 3 (in the implementation's element order) -/
example : dgRun [0, 1, 2, 3] [(0, 1), (1, 2), (2, 0), (1, 3)] [[10], [11], [12], [13]] 4 =
    some [[10, 11, 12, 13], [10, 11, 12, 13], [10, 11, 12, 13], [13]] := by decide +kernel

/-- the same with the roots in the opposite order: other lists, same sets -/
example : dgRun [3, 2, 1, 0] [(0, 1), (1, 2), (2, 0), (1, 3)] [[10], [11], [12], [13]] 4 =
    some [[12, 10, 11, 13], [12, 10, 11, 13], [12, 10, 11, 13], [13]] := by decide +kernel

/-- a diamond -/
example : dgRun [0, 1, 2, 3] [(0, 1), (0, 2), (1, 3), (2, 3)] [[10], [11], [12], [13]] 4 =
    some [[10, 11, 13, 12], [11, 13], [12, 13], [13]] := by decide +kernel

/-- a self-loop (and `Union` keeps the repetitions of its second argument) -/
example : dgRun [0] [(0, 0)] [[10, 10]] 1 = some [[10, 10]] := by decide +kernel

/-- nodes outside `X` (1 and 2, a cycle) are traversed through `R` and get their sets too; node 3 is
    never touched -/
example : dgRun [0] [(0, 2), (2, 1), (1, 2)] [[], [11], [12]] 4 =
    some [[12, 11], [12, 11], [12, 11], []] := by decide +kernel

/-- an unreachable node outside `X` is not visited (its `Fp` does not appear) -/
example : dgRun [1] [(0, 2), (2, 1), (1, 2)] [[10], [11], [12]] 4 =
    some [[], [11, 12], [11, 12], []] := by decide +kernel

/-- two nested components, an exit, a second root reaching the first component -/
example : dgRun [0, 4] [(0, 1), (1, 2), (2, 1), (2, 3), (3, 0), (4, 2), (3, 5)]
      [[10], [11], [12], [13], [14], [15]] 6 =
    some [[10, 11, 12, 13, 15], [10, 11, 12, 13, 15], [10, 11, 12, 13, 15], [10, 11, 12, 13, 15],
          [14, 10, 11, 12, 13, 15], [15]] := by decide +kernel

/-- `digraph_least` applied: in the last example `F 4` is `{14} ∪ {10, 11, 12, 13, 15}` -/
example : ∀ a, (∃ y, DG.Reach [(0, 1), (1, 2), (2, 1), (2, 3), (3, 0), (4, 2), (3, 5)] 4 y ∧
      a ∈ [[10], [11], [12], [13], [14], [15]].getD y []) ↔ a ∈ [14, 10, 11, 12, 13, 15] := by
  obtain ⟨F, hF⟩ := digraph_total [0, 4] [(0, 1), (1, 2), (2, 1), (2, 3), (3, 0), (4, 2), (3, 5)]
    (fun i => [[10], [11], [12], [13], [14], [15]].getD i [])
  have h4 : (DG.digraph [0, 4] [(0, 1), (1, 2), (2, 1), (2, 3), (3, 0), (4, 2), (3, 5)]
      (fun i => [[10], [11], [12], [13], [14], [15]].getD i [])).map (· 4) =
      some [14, 10, 11, 12, 13, 15] := by decide +kernel
  rw [hF] at h4
  intro a
  rw [← Option.some.inj h4]
  exact (digraph_least _ _ _ F (by decide) hF 4 (by decide) a).symm

/-- the grammars of C03b through `Digraph`: same lines as the least-solution model and the oracle -/
example : DG.dgSizeOK laG laA (nullableL laG 8) = true ∧ DG.dgSizeOK nuG nuA (nullableL nuG 7) = true := by
  decide +kernel

example : DG.laLinesDG laG laA (nullableL laG 8) = laLinesDP laG 8 laA := by
  rw [laG_linesDP]; decide +kernel

example : DG.laLinesDG nuG nuA (nullableL nuG 7) =
    some [(0, 3, [1, 3]), (1, 0, [1]), (2, 5, [1]), (3, 2, [1, 3]), (4, 1, [1]), (5, 4, [1])] := by
  decide +kernel

/-- `Read`, `Follow` and the lookahead lists of the grammar with nullable nonterminals, per transition
    index: `Digraph` produces them in the implementation's element order (`Follow (0, A) = [3, 1]`),
    the least-solution model sorted (`[1, 3]`); sorted, they coincide -/
example : (DG.stagesDG nuG nuA (nullableL nuG 7)).map (fun sd => sd.follow) =
    some [[1], [3, 1], [], [], [], [1], [], [], [], [], []] := by decide +kernel

example : (DG.stagesDG nuG nuA (nullableL nuG 7)).map
      (fun sd => (sd.read.map sortS, sd.follow.map sortS, sd.la.map sortS)) =
    ((stagesWith nuG nuA (nullableL nuG 7)).map fun st => (st.read, st.follow, st.la)) := by decide +kernel

end Y.Props

#print axioms Y.Props.digraph_total
#print axioms Y.Props.digraph_sound
#print axioms Y.Props.digraph_least_reach
#print axioms Y.Props.digraph_least
#print axioms Y.Props.digraph_eq_solve
#print axioms Y.Props.stagesDG_total
#print axioms Y.Props.C03_dp_digraph
#print axioms Y.Props.C03_dp_digraph_exact
#print axioms Y.Props.C03_dg_lines_eq
