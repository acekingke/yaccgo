import Yv.Proofs.TermFacts
import Yv.Props.C01
import Yv.Props.C06
/-! # C06c — the driver terminates (on every table that passes the termination certificate)

`C06_safe` says the driver never crashes on certified tables, for every fuel; it does not say that
the fuel is ever enough.  In general it is not: a table for `S' → A ; A → A | x` whose conflict was
resolved in favour of `A → A` reduces for ever (`C06_conflict_table_can_loop`).  Termination is
therefore proved from a decidable certificate on the table alone, `Y.Term.certTerm G T n F`
(`Yv/Model/Term.lean`, evaluated per table by `ymodel`; `certTermFast` is the array-backed
evaluator, `certTermFast_eq`):

* the reduce-only simulation (`rstep`) from `[0]` and from every pair `[q, p]` such that `q` is a
  non-negative value in row `p` reaches, under every lookahead, within `F` moves either a
  non-reduce (`stop`) or a reduction that needs states below the simulated ones (`under`);
* no row shifts the end marker (column 1) — without this the driver can shift `$` for ever once
  the input is exhausted, whatever the reduce moves do.

`C06_terminates` needs no other hypothesis (no `gramWF`/`certA`/`certT`; arbitrary tokens), and the
fuel is bounded by the closed form `termBound F |w| = (|w|+1)·(1+|w|·F)·F`. -/
namespace Y.Props
open Y Y.D Y.Term

theorem C06_terminates_bound {V : Type} (G : Grammar) (T : Dense) (n : Nat)
    (sem : Nat → List V → V) (eofVal bv : V) (F : Nat)
    (h : certTerm G T n F = true) (w : List (Sym × V)) :
    ∃ fuel, fuel ≤ termBound F w.length ∧
      run (dparams G T n sem eofVal) fuel (init bv w) ≠ .outOfFuel :=
  ⟨termBound F w.length, Nat.le_refl _,
    halts_of_ok (dparams G T n sem eofVal) F (certTermWith_ok h) w.length 1 (init bv w)
      Good.base (Nat.le_refl _) (Nat.le_refl _)⟩

theorem C06_terminates {V : Type} (G : Grammar) (T : Dense) (n : Nat)
    (sem : Nat → List V → V) (eofVal bv : V) (F : Nat)
    (h : certTerm G T n F = true) (w : List (Sym × V)) :
    ∃ fuel, run (dparams G T n sem eofVal) fuel (init bv w) ≠ .outOfFuel := by
  obtain ⟨fuel, -, hf⟩ := C06_terminates_bound G T n sem eofVal bv F h w
  exact ⟨fuel, hf⟩

/-- once the driver has halted, more fuel does not change the outcome -/
theorem C06_terminates_mono {V : Type} (P : Params V) (fuel : Nat) (c : D.Cfg V)
    (h : run P fuel c ≠ .outOfFuel) (fuel' : Nat) (hf : fuel ≤ fuel') :
    run P fuel' c = run P fuel c :=
  run_mono P fuel c h fuel' hf

/-- an input that is not a sentence (no rightmost derivation of it from the body of rule 0) is
    rejected through the error channel after finitely many steps, with nothing requested from the
    lexer after the offending token -/
theorem C06_nonsentence_rejected {V : Type} (G : Grammar) (nS : Nat) (A : Auto) (T : Dense)
    (sem : Nat → List V → V) (eofVal bv : V) (F : Nat)
    (hG : gramWF G nS = true) (hA : certA G A = true) (hT : certT G nS A T = true)
    (hF : certTerm G T A.n F = true)
    (w : List (Sym × V)) (hw : ∀ t ∈ w, t.1 ≤ G.nT ∧ t.1 ≠ 1)
    (hns : ¬ ∃ rl0 reds, G.rules[0]? = some rl0 ∧ RmDer G rl0.rhs reds (w.map Prod.fst)) :
    ∃ fuel c', run (dparams G T A.n sem eofVal) fuel (init bv w) = .syntaxError c' ∧
      c'.req + c'.rest.length = w.length + 1 := by
  obtain ⟨fuel, hfuel⟩ := C06_terminates G T A.n sem eofVal bv F hF w
  have hs := C06_safe G nS A T sem eofVal bv hG hA hT w hw fuel
  cases hrun : run (dparams G T A.n sem eofVal) fuel (init bv w) with
  | accept v c' =>
    obtain ⟨rl0, h0, -, hd, -⟩ := C01_sound G nS A T sem eofVal bv hG hA hT w hw fuel v c' hrun
    exact absurd ⟨rl0, c'.reds, h0, hd⟩ hns
  | syntaxError c' => exact ⟨fuel, c', hrun, hs.2 c' hrun⟩
  | crash => exact absurd hrun hs.1
  | outOfFuel => exact absurd hrun hfuel

/-! ## Non-vacuity: the table of the C01 example (`S' → S ; S → a S | b`) passes the certificate
    (3 moves suffice), also through the array-backed evaluator. -/

theorem exT_term : certTerm exG exT exA.n 3 = true := by decide +kernel

example : certTerm exG exT exA.n 3 = true := exT_term
example : certTermFast exG exT exA.n 3 = true := by rw [certTermFast_eq]; exact exT_term

example : ∀ w : List (Sym × Unit), ∃ fuel, fuel ≤ termBound 3 w.length ∧
    run (dparams exG exT exA.n (fun _ _ => ()) ()) fuel (init () w) ≠ .outOfFuel :=
  C06_terminates_bound exG exT exA.n _ _ _ 3 exT_term

/-! ## The certificate is needed: `S' → A ; A → A | x` (`$`=1, `x`=2, `A`=3).  State 1 holds
    `S' → A ·` and `A → A ·`; the table below resolves that conflict on `$` in favour of the
    reduction `A → A`, so after `x` has been reduced to `A` the driver pops state 1, goes to state 1
    and never stops.  The table passes no `certTerm`. -/

def loopG : Grammar := { nT := 2, rules := [⟨0, [3]⟩, ⟨3, [3]⟩, ⟨3, [2]⟩] }
def loopT : Dense := [[103, 103, 2, 1], [103, -1, 103, 103], [103, -2, 103, 103]]

theorem loop_spin (sem : Nat → List Unit → Unit) : ∀ (fuel : Nat) (c : D.Cfg Unit), c.rest = [] →
    sts c.stack = [1, 0] → run (dparams loopG loopT 3 sem ()) fuel c = .outOfFuel
  | 0, _, _, _ => rfl
  | fuel + 1, c, hr, hs => by
    have hm : Move (dparams loopG loopT 3 sem ()) c _ :=
      .reduce (a := -1) (g := 1) (lhs := 3) (n := 1)
        (by rw [stTop_eq, hs]; show cell loopT 1 (look () c).1 = _; rw [look_nil hr]; rfl)
        (show (-1 : Int) ≠ errCode 3 by decide) (show (-1 : Int) ≠ accCode 3 by decide) (by decide) rfl
        (by rw [← sts_length, hs]; decide)
        (by rw [stTop_eq, sts_drop, hs]; rfl) (by decide)
    rw [run, hm.step_eq]
    exact loop_spin sem fuel _ hr (by show 1 :: sts (c.stack.drop 1) = [1, 0]; rw [sts_drop, hs]; rfl)

theorem C06_conflict_table_can_loop :
    (∀ F, certTerm loopG loopT 3 F = false) ∧
    ∀ fuel, run (dparams loopG loopT 3 (fun _ _ => ()) ()) fuel (init () [(2, ())]) = .outOfFuel := by
  have hloop : ∀ fuel, run (dparams loopG loopT 3 (fun _ _ => ()) ()) fuel (init () [(2, ())])
      = .outOfFuel := by
    intro fuel
    match fuel with
    | 0 => rfl
    | 1 => rfl
    | fuel + 2 =>
      obtain ⟨c2, h2, hr, hs⟩ : ∃ c2 : D.Cfg Unit,
          run (dparams loopG loopT 3 (fun _ _ => ()) ()) (fuel + 2) (init () [(2, ())]) =
            run (dparams loopG loopT 3 (fun _ _ => ()) ()) fuel c2 ∧
          c2.rest = [] ∧ sts c2.stack = [1, 0] := ⟨_, rfl, rfl, rfl⟩
      rw [h2]
      exact loop_spin _ fuel c2 hr hs
  refine ⟨?_, hloop⟩
  intro F
  cases hc : certTerm loopG loopT 3 F with
  | false => rfl
  | true =>
    obtain ⟨fuel, hf⟩ := C06_terminates loopG loopT 3 (fun _ _ => ()) () () F hc [(2, ())]
    exact absurd (hloop fuel) hf

example : certTerm loopG loopT 3 8 = false := by decide +kernel

end Y.Props
