import Yv.Proofs.DTrace
/-! # C17 — the parse trace tells the truth

The driver model records one `shift X p` event per push (token or goto) and one `reduce la r g` event
per reduction, in the order performed — exactly the lines `TraceShift` / `TraceReduce` print.
`C17_trace`: on every certified table, for every input and fuel, when the run ends (accept or syntax
error) the recorded events, replayed from the start configuration `([0], input)` against the LR(0)
automaton — every shift must follow an edge of the automaton and consume the next input token, every
reduce must name the current lookahead, pop its right-hand side and take the automaton's goto —
succeed and end in exactly the parser's final stack of states and remaining input; and the rule
numbers of the reduce events, in order, are exactly the reductions performed. -/
namespace Y.Props
open Y Y.D

theorem C17_trace {V : Type} (G : Grammar) (nS : Nat) (A : Auto) (T : Dense)
    (sem : Nat → List V → V) (eofVal bv : V)
    (hG : gramWF G nS = true) (hA : certA G A = true) (hT : certT G nS A T = true)
    (w : List (Sym × V)) (hw : ∀ t ∈ w, t.1 ≤ G.nT ∧ t.1 ≠ 1) (fuel : Nat) (c' : D.Cfg V)
    (hend : (∃ v, run (dparams G T A.n sem eofVal) fuel (init bv w) = .accept v c') ∨
            run (dparams G T A.n sem eofVal) fuel (init bv w) = .syntaxError c') :
    replay G A c'.trace.reverse ([0], w.map Prod.fst) = some (c'.stack.map Entry.st, c'.rest.map Prod.fst) ∧
    c'.trace.reverse.filterMap ruleOf = c'.reds.reverse := by
  have hG' := gramWF_ok hG
  have hreach : Reach (dparams G T A.n sem eofVal) (init bv w) c' := by
    obtain ⟨hacc, herr, _⟩ := run_end (dparams G T A.n sem eofVal) fuel (init bv w)
    rcases hend with ⟨v, hv⟩ | he
    · exact (hacc v c' hv).1
    · exact (herr c' he).1
  have h := hreach.inv (I := fun c => D.Inv G A (w.map Prod.fst) c ∧ TInv G A (w.map Prod.fst) c)
    (fun c c1 hi hs =>
      have hm := hs ▸ step_amove sem eofVal hG' (certA_ok hA) (certT_ok hT) hi.1
      ⟨hi.1.next (certA_ok hA) hm, hi.2.next hi.1.path.ne_nil hm⟩)
    ⟨init_inv bv w hw, tinv_init G A bv w⟩
  exact ⟨h.2.rep, h.2.reds⟩

end Y.Props
