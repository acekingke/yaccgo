import Yv.Model.Visitor
/-! # C12 — unusable grammars are rejected, usable ones are not

The front end marks the symbols that "can terminate" (`Visitor.productive`) by iterating a step
function `b.syms.length + 1` times over the rules, and refuses the grammar (`unproductive`) when a
nonterminal is not marked.

The specification is `Productive b`: the least set containing the terminals and closed under the rules.
The marked set is sound for it, and complete as soon as one more sweep adds nothing
(`productiveChecked` runs that test).  The iteration count always suffices when every left-hand side is
a symbol of the table — each sweep that changes something adds a new left-hand side, and there are at
most `b.syms.length` of them (pigeonhole) — and this holds for every grammar `buildGrammar` returns.
Hence the verdict of `front`, once declarations, rules and grammar have been built: `unproductive`
exactly when some symbol marked nonterminal is not `Productive`.
The `norule` refusal of `buildGrammar` is characterised as well. -/
namespace Visitor

/-! ## the iteration, named -/

/-- what `productive` does for one rule -/
def prodStepF (s : List Nat) (r : GRule) : List Nat :=
  if r.rhs.all s.contains && !s.contains r.lhs then s ++ [r.lhs] else s

/-- one sweep over the rules (the local `step` of `productive`) -/
def prodStep (b : Built) (s : List Nat) : List Nat := b.rules.foldl prodStepF s

def prodInit (b : Built) : List Nat := (b.syms.filter (!·.isNT)).map (·.id)

theorem productive_eq (b : Built) : productive b =
    (List.range (b.syms.length + 1)).foldl (fun s _ => prodStep b s) (prodInit b) := rfl

/-- the same iteration as `productive`, with a final stability test: one more sweep adds nothing -/
def productiveChecked (b : Built) : Option (List Nat) :=
  let s := productive b
  if (prodStep b s).all s.contains then some s else none

inductive Productive (b : Built) : Nat → Prop
  | term (x : Nat) : (∃ sy ∈ b.syms, sy.id = x ∧ sy.isNT = false) → Productive b x
  | rule (r : GRule) : r ∈ b.rules → (∀ y ∈ r.rhs, Productive b y) → Productive b r.lhs

theorem productive_inv (b : Built) (P : List Nat → Prop) (h0 : P (prodInit b))
    (hs : ∀ s, ∀ r ∈ b.rules, P s → P (prodStepF s r)) : P (productive b) :=
  List.foldlRecOn _ _ h0 fun _ h _ _ => List.foldlRecOn _ _ h fun s h r hr => hs s r hr h

theorem prodStepF_eq (s : List Nat) (r : GRule) :
    prodStepF s r = if (∀ y ∈ r.rhs, y ∈ s) ∧ r.lhs ∉ s then s ++ [r.lhs] else s := by
  unfold prodStepF
  simp only [Bool.and_eq_true, List.all_eq_true, List.contains_eq_mem, decide_eq_true_eq, Bool.not_eq_true',
    decide_eq_false_iff_not]

theorem prodStepF_mono (s : List Nat) (r : GRule) (x : Nat) (h : x ∈ s) : x ∈ prodStepF s r := by
  rw [prodStepF_eq]; split
  · exact List.mem_append_left _ h
  · exact h

theorem foldF_mono (rs : List GRule) (s : List Nat) (x : Nat) (h : x ∈ s) :
    x ∈ rs.foldl prodStepF s :=
  List.foldlRecOn _ _ h fun s h r _ => prodStepF_mono s r x h

theorem prodStepF_fires (s : List Nat) (r : GRule) (h : ∀ y ∈ r.rhs, y ∈ s) :
    r.lhs ∈ prodStepF s r := by
  rw [prodStepF_eq]
  by_cases hl : r.lhs ∈ s
  · rw [if_neg fun c => c.2 hl]; exact hl
  · rw [if_pos ⟨h, hl⟩]; exact List.mem_append_right _ (List.mem_singleton.2 rfl)

theorem foldF_fires (rs : List GRule) (s : List Nat) (r : GRule) (hr : r ∈ rs)
    (h : ∀ y ∈ r.rhs, y ∈ s) : r.lhs ∈ rs.foldl prodStepF s := by
  induction rs generalizing s with
  | nil => cases hr
  | cons r' rs ih =>
    rw [List.foldl_cons]
    rcases List.mem_cons.1 hr with rfl | hr
    · exact foldF_mono _ _ _ (prodStepF_fires s r h)
    · exact ih _ hr (fun y hy => prodStepF_mono s r' y (h y hy))

theorem prodStepF_sound (b : Built) (s : List Nat) (r : GRule) (hr : r ∈ b.rules)
    (hs : ∀ x ∈ s, Productive b x) : ∀ x ∈ prodStepF s r, Productive b x := by
  rw [prodStepF_eq]; split
  · next hc =>
    intro x hx
    rcases List.mem_append.1 hx with hx | hx
    · exact hs x hx
    · rw [List.mem_singleton.1 hx]
      exact .rule r hr fun y hy => hs y (hc.1 y hy)
  · exact hs

theorem prodInit_sound (b : Built) : ∀ x ∈ prodInit b, Productive b x := by
  intro x hx
  unfold prodInit at hx
  rcases List.mem_map.1 hx with ⟨sy, hsy, rfl⟩
  rcases List.mem_filter.1 hsy with ⟨hm, hnt⟩
  exact Productive.term _ ⟨sy, hm, rfl, by simpa using hnt⟩

theorem prodInit_complete (b : Built) (sy : Sym) (hm : sy ∈ b.syms) (hnt : sy.isNT = false) :
    sy.id ∈ prodInit b := by
  unfold prodInit
  exact List.mem_map.2 ⟨sy, List.mem_filter.2 ⟨hm, by simp [hnt]⟩, rfl⟩

theorem productive_sound (b : Built) : ∀ x ∈ productive b, Productive b x :=
  productive_inv b (∀ x ∈ ·, Productive b x) (prodInit_sound b) (prodStepF_sound b)

theorem prodInit_sub_productive (b : Built) (x : Nat) (h : x ∈ prodInit b) : x ∈ productive b :=
  productive_inv b (x ∈ ·) h fun s r _ h => prodStepF_mono s r x h

theorem closed_complete (b : Built) (s : List Nat) (hi : ∀ x ∈ prodInit b, x ∈ s)
    (hc : ∀ x ∈ prodStep b s, x ∈ s) : ∀ x, Productive b x → x ∈ s := by
  intro x hx
  induction hx with
  | term x h =>
    obtain ⟨sy, hm, rfl, hnt⟩ := h
    exact hi _ (prodInit_complete b sy hm hnt)
  | rule r hr _ ih => exact hc _ (foldF_fires b.rules s r hr ih)

theorem productiveChecked_some (b : Built) (s : List Nat) (h : productiveChecked b = some s) :
    s = productive b ∧ ∀ x ∈ prodStep b s, x ∈ s := by
  simp only [productiveChecked] at h
  split at h <;> cases h
  next hc => exact ⟨rfl, by simpa using hc⟩

/-- **C12 (exactness).** When the stability test passes, the computed set is exactly the set of
    productive symbols. -/
theorem C12_productive_exact (b : Built) (s : List Nat) (h : productiveChecked b = some s) (x : Nat) :
    x ∈ s ↔ Productive b x := by
  obtain ⟨rfl, hc⟩ := productiveChecked_some b s h
  exact ⟨productive_sound b x, closed_complete b _ (prodInit_sub_productive b) hc x⟩

/-! ## the iteration count suffices (pigeonhole) -/

/-- every left-hand side is the id of a symbol of the table -/
def LhsInSyms (b : Built) : Prop := ∀ r ∈ b.rules, ∃ sy ∈ b.syms, sy.id = r.lhs

/-- shape of every intermediate set: the initial terminals followed by distinct new left-hand sides -/
def Shape (b : Built) (s : List Nat) : Prop :=
  ∃ added : List Nat, s = prodInit b ++ added ∧ added.Nodup ∧ ∀ x ∈ added, ∃ r ∈ b.rules, r.lhs = x

theorem prodStepF_cases (s : List Nat) (r : GRule) :
    prodStepF s r = s ∨ (prodStepF s r = s ++ [r.lhs] ∧ r.lhs ∉ s) := by
  rw [prodStepF_eq]; split
  · next hc => exact .inr ⟨rfl, hc.2⟩
  · exact .inl rfl

theorem prodStepF_shape (b : Built) (s : List Nat) (r : GRule) (hr : r ∈ b.rules)
    (h : Shape b s) : Shape b (prodStepF s r) := by
  rcases prodStepF_cases s r with he | ⟨he, hn⟩ <;> rw [he]
  · exact h
  · obtain ⟨added, rfl, hnd, hadd⟩ := h
    refine ⟨added ++ [r.lhs], List.append_assoc ..,
      List.nodup_append.2 ⟨hnd, List.pairwise_singleton _ _, fun a ha c hc hac => ?_⟩,
      List.forall_mem_append.2 ⟨hadd, List.forall_mem_singleton.2 ⟨r, hr, rfl⟩⟩⟩
    rw [List.mem_singleton.1 hc] at hac
    exact hn (List.mem_append_right _ (hac ▸ ha))

theorem prodStep_dich (b : Built) (s : List Nat) : prodStep b s = s ∨ s.length < (prodStep b s).length :=
  List.foldlRecOn (motive := fun t => t = s ∨ s.length < t.length) _ _ (.inl rfl) fun t ht r _ => by
    rcases prodStepF_cases t r with he | ⟨he, _⟩ <;> rw [he]
    · exact ht
    · right; rcases ht with rfl | ht <;> simp <;> omega

/-- the pigeonhole step: after one round of `f` per element of `l`, either a fixed point of `f` has been
    reached or the measure `len` has grown by at least the number of rounds -/
theorem foldl_const_dich {α β : Type} (f : α → α) (len : α → Nat) (hf : ∀ s, f s = s ∨ len s < len (f s))
    (l : List β) (s : α) :
    f (l.foldl (fun s _ => f s) s) = l.foldl (fun s _ => f s) s ∨
    len s + l.length ≤ len (l.foldl (fun s _ => f s) s) := by
  induction l generalizing s with
  | nil => exact .inr (Nat.le_refl _)
  | cons _ l ih =>
    rw [List.foldl_cons, List.length_cons]
    rcases ih (f s) with h | h
    · exact .inl h
    · rcases hf s with he | hl
      · have hfix : l.foldl (fun s _ => f s) s = s :=
          List.foldlRecOn (motive := (· = s)) _ _ rfl fun t ht _ _ => ht ▸ he
        exact .inl (by rw [he, hfix, he])
      · exact .inr (by omega)

theorem prodInit_shape (b : Built) : Shape b (prodInit b) :=
  ⟨[], by simp, List.nodup_nil, fun _ h => by cases h⟩

/-- pigeonhole: the new elements are distinct ids of symbols marked nonterminal -/
theorem shape_len (b : Built) (hl : LhsInSyms b) (s : List Nat) (h : Shape b s) :
    s.length ≤ (prodInit b).length + b.syms.length := by
  obtain ⟨added, rfl, hnd, hadd⟩ := h
  have hsub : added ⊆ b.syms.map (·.id) := by
    intro x hx
    obtain ⟨r, hr, rfl⟩ := hadd x hx
    obtain ⟨sy, hm, hid⟩ := hl r hr
    exact List.mem_map.2 ⟨sy, hm, hid⟩
  have := hnd.length_le_of_subset hsub
  simp only [List.length_map] at this
  simp only [List.length_append]
  omega

theorem productive_fix (b : Built) (hl : LhsInSyms b) : prodStep b (productive b) = productive b := by
  rcases foldl_const_dich (prodStep b) List.length (prodStep_dich b) (List.range (b.syms.length + 1))
    (prodInit b) with h | h
  · exact h
  · have := shape_len b hl _ (productive_inv b (Shape b) (prodInit_shape b) (prodStepF_shape b))
    rw [List.length_range] at h
    rw [productive_eq] at this
    omega

/-- **C12 (the unchecked iteration count suffices).** -/
theorem C12_productive_stable (b : Built) (hl : LhsInSyms b) :
    productiveChecked b = some (productive b) := by
  unfold productiveChecked
  simp only [productive_fix b hl]
  rw [if_pos]
  rw [List.all_eq_true]; intro x hx; simpa using hx

/-- **C12 (verdict).** Once the declarations, the rules and the grammar have been built, `front`
    refuses with `unproductive` exactly when some symbol marked nonterminal is not in
    `productive b`, and otherwise returns the grammar. -/
theorem C12_verdict (r : YParse.Root) (ds ds' : Decls) (vs : List VRule) (b : Built)
    (h1 : processDecl r.decl = .ok ds) (h2 : processRules ds r.rules = .ok (ds', vs))
    (h3 : buildGrammar ds' vs = .ok b) :
    ((∃ sy ∈ b.syms, sy.isNT = true ∧ sy.id ∉ productive b) → front r = .error .unproductive) ∧
    ((∀ sy ∈ b.syms, sy.isNT = true → sy.id ∈ productive b) → front r = .ok b) ∧
    (front r = .error .unproductive ↔ ∃ sy ∈ b.syms, sy.isNT = true ∧ sy.id ∉ productive b) := by
  have hf : front r =
      if b.syms.any (fun sy => sy.isNT && !(productive b).contains sy.id) then .error .unproductive
      else .ok b := by
    unfold front; rw [h1]; dsimp only; rw [h2]; dsimp only; rw [h3]
  have hany : b.syms.any (fun sy => sy.isNT && !(productive b).contains sy.id) = true ↔
      ∃ sy ∈ b.syms, sy.isNT = true ∧ sy.id ∉ productive b := by
    simp [List.any_eq_true]
  rw [hf, ← hany]
  split
  · next hc =>
    obtain ⟨sy, hm, hnt, hn⟩ := hany.1 hc
    exact ⟨fun _ => rfl, fun h => absurd (h sy hm hnt) hn, fun _ => hc, fun _ => rfl⟩
  · next hc => exact ⟨fun h => absurd h hc, fun _ => rfl, nofun, fun h => absurd h hc⟩

/-! ## the grammar construction, named -/

/-- the body of the rule loop of `buildGrammar` -/
def ruleStep (syms : List Sym) (acc : Except Refuse (List GRule)) (v : VRule) :
    Except Refuse (List GRule) :=
  match acc with
  | .error e => .error e
  | .ok rs =>
    match symId syms v.lhs with
    | none => .error (.other "lhs")
    | some l =>
      let rhs := v.rhs.filterMap (symId syms)
      if rhs.length != v.rhs.length then .error (.other "rhs") else
      let ps : Int := match v.prec with
        | some p => (match symId syms p.name with | some i => (i : Int) | none => -1)
        | none => -1
      .ok (rs ++ [⟨l, rhs, ps⟩])

def buildRules (syms : List Sym) (s : Sym) (vs : List VRule) : Except Refuse (List GRule) :=
  vs.foldl (ruleStep syms) (.ok [⟨0, [s.id], -1⟩])

/-- `SetNT` on every left-hand side -/
def markNT (lhss : List Nat) (syms : List Sym) : List Sym :=
  syms.map fun sy => if lhss.contains sy.id then { sy with isNT := true } else sy

theorem buildGrammar_eq (ds : Decls) (vs : List VRule) :
    buildGrammar ds vs =
      match ((buildSyms ds).drop 2).find? (·.name == ds.start) with
      | none => .error (.other "no start symbol")
      | some s =>
        match buildRules (buildSyms ds) s vs with
        | .error e => .error e
        | .ok rs =>
          if (markNT (rs.map (·.lhs)) (buildSyms ds)).any
              (fun sy => sy.isNT && !(rs.map (·.lhs)).contains sy.id) then .error .norule
          else .ok { syms := markNT (rs.map (·.lhs)) (buildSyms ds), rules := rs,
                     nT := ((markNT (rs.map (·.lhs)) (buildSyms ds)).filter (!·.isNT)).length } := rfl


/-! ## the rule loop: it succeeds exactly when every symbol lookup succeeds -/

/-- every name of the rule is found in the symbol table -/
def Looked (syms : List Sym) (v : VRule) : Prop :=
  (∃ l, symId syms v.lhs = some l) ∧ ∀ n ∈ v.rhs, ∃ k, symId syms n = some k

theorem ruleStep_cases (syms : List Sym) (rs : List GRule) (v : VRule) :
    (Looked syms v ∧ ∃ r, symId syms v.lhs = some r.lhs ∧ ruleStep syms (.ok rs) v = .ok (rs ++ [r])) ∨
    (¬ Looked syms v ∧ ∃ w, ruleStep syms (.ok rs) v = .error (.other w)) := by
  have hlen : (v.rhs.filterMap (symId syms)).length = v.rhs.length ↔ ∀ n ∈ v.rhs, ∃ k, symId syms n = some k := by
    simp only [List.filterMap_length_eq_length, Option.isSome_iff_exists]
  unfold ruleStep Looked
  dsimp only
  split
  · next hl => exact .inr ⟨fun ⟨⟨l, h'⟩, _⟩ => (nomatch hl ▸ h'), _, rfl⟩
  · next l hl =>
    rw [← hlen]
    split
    · next hne => exact .inr ⟨fun h => by simp [h.2] at hne, _, rfl⟩
    · next hne => exact .inl ⟨⟨⟨l, hl⟩, Classical.not_not.1 fun h => hne (bne_iff_ne.2 h)⟩, _, hl, rfl⟩

theorem ruleFold_error (syms : List Sym) (vs : List VRule) (e : Refuse) :
    vs.foldl (ruleStep syms) (.error e) = .error e := by
  induction vs with
  | nil => rfl
  | cons v vs ih => rw [List.foldl_cons]; exact ih

theorem ruleFold_cases (syms : List Sym) (vs : List VRule) (rs0 : List GRule) :
    ((∀ v ∈ vs, Looked syms v) ∧ ∃ rs, vs.foldl (ruleStep syms) (.ok rs0) = .ok (rs0 ++ rs) ∧
        ∀ r ∈ rs, ∃ n, symId syms n = some r.lhs) ∨
    ((∃ v ∈ vs, ¬ Looked syms v) ∧ ∃ w, vs.foldl (ruleStep syms) (.ok rs0) = .error (.other w)) := by
  induction vs generalizing rs0 with
  | nil => exact .inl ⟨nofun, [], by rw [List.append_nil]; rfl, nofun⟩
  | cons v vs ih =>
    rw [List.foldl_cons]
    rcases ruleStep_cases syms rs0 v with ⟨hl, r, hr, he⟩ | ⟨hl, w, he⟩
    · rw [he]
      rcases ih (rs0 ++ [r]) with ⟨hall, rs, hrs, hlhs⟩ | ⟨⟨v', hv', hn⟩, hw⟩
      · refine .inl ⟨List.forall_mem_cons.2 ⟨hl, hall⟩, r :: rs, by rw [hrs, List.append_assoc]; rfl, ?_⟩
        exact List.forall_mem_cons.2 ⟨⟨_, hr⟩, hlhs⟩
      · exact .inr ⟨⟨v', List.mem_cons_of_mem _ hv', hn⟩, hw⟩
    · rw [he, ruleFold_error]
      exact .inr ⟨⟨v, List.mem_cons_self, hl⟩, w, rfl⟩

/-- the rule loop of `buildGrammar` succeeds exactly when every left-hand side and every right-hand
    side name of every rule is found in the symbol table -/
theorem buildRules_ok_iff (syms : List Sym) (s : Sym) (vs : List VRule) :
    (∃ rs, buildRules syms s vs = .ok rs) ↔ ∀ v ∈ vs, Looked syms v := by
  unfold buildRules
  rcases ruleFold_cases syms vs [⟨0, [s.id], -1⟩] with ⟨hall, rs, hrs, _⟩ | ⟨⟨v, hv, hn⟩, w, hw⟩
  · exact ⟨fun _ => hall, fun _ => ⟨_, hrs⟩⟩
  · rw [hw]
    exact ⟨nofun, fun h => absurd (h v hv) hn⟩

theorem buildRules_error (syms : List Sym) (s : Sym) (vs : List VRule) (e : Refuse)
    (h : buildRules syms s vs = .error e) : ∃ w, e = .other w := by
  unfold buildRules at h
  rcases ruleFold_cases syms vs [⟨0, [s.id], -1⟩] with ⟨_, rs, hrs, _⟩ | ⟨_, w, hw⟩
  · rw [hrs] at h; cases h
  · rw [hw] at h; cases h; exact ⟨w, rfl⟩

theorem markNT_any (lhss : List Nat) (syms : List Sym) :
    (markNT lhss syms).any (fun sy => sy.isNT && !lhss.contains sy.id) = true ↔
      ∃ sy ∈ syms, sy.isNT = true ∧ sy.id ∉ lhss := by
  unfold markNT
  rw [List.any_map, List.any_eq_true]
  refine exists_congr fun sy => and_congr_right fun _ => ?_
  by_cases hc : sy.id ∈ lhss <;> simp [hc]

/-- **C12 (`norule`).** `buildGrammar` refuses with `norule` exactly when the start symbol is found,
    every symbol lookup of the rule loop succeeds (the loop returns `rs`), and some symbol of the
    table that is marked nonterminal is the left-hand side of no rule of `rs`. -/
theorem C12_norule (ds : Decls) (vs : List VRule) :
    buildGrammar ds vs = .error .norule ↔
      ∃ s rs, ((buildSyms ds).drop 2).find? (·.name == ds.start) = some s ∧
        buildRules (buildSyms ds) s vs = .ok rs ∧
        ∃ sy ∈ buildSyms ds, sy.isNT = true ∧ ∀ r ∈ rs, r.lhs ≠ sy.id := by
  have hmem : ∀ (rs : List GRule) (x : Nat), x ∉ rs.map (·.lhs) ↔ ∀ r ∈ rs, r.lhs ≠ x := by
    intro rs x; simp
  rw [buildGrammar_eq]
  constructor
  · intro h
    split at h
    · cases h
    · rename_i s hs
      split at h
      · rename_i e he
        obtain ⟨w, hw⟩ := buildRules_error _ _ _ _ he
        cases h; cases hw
      · rename_i rs hrs
        split at h
        · rename_i hc
          obtain ⟨sy, hm, hnt, hn⟩ := (markNT_any _ _).1 hc
          exact ⟨s, rs, hs, hrs, sy, hm, hnt, (hmem rs sy.id).1 hn⟩
        · cases h
  · rintro ⟨s, rs, hs, hrs, sy, hm, hnt, hn⟩
    rw [hs]; dsimp only; rw [hrs]; dsimp only
    rw [if_pos ((markNT_any _ _).2 ⟨sy, hm, hnt, (hmem rs sy.id).2 hn⟩)]

theorem buildGrammar_ok (ds : Decls) (vs : List VRule) (b : Built) (h : buildGrammar ds vs = .ok b) :
    ∃ s rs, ((buildSyms ds).drop 2).find? (·.name == ds.start) = some s ∧
      buildRules (buildSyms ds) s vs = .ok rs ∧
      b.rules = rs ∧ b.syms = markNT (rs.map (·.lhs)) (buildSyms ds) ∧
      ∀ sy ∈ buildSyms ds, sy.isNT = true → ∃ r ∈ rs, r.lhs = sy.id := by
  rw [buildGrammar_eq] at h
  split at h
  · cases h
  · rename_i s hs
    split at h
    · cases h
    · rename_i rs hrs
      split at h
      · cases h
      · rename_i hc
        cases h
        refine ⟨s, rs, hs, hrs, rfl, rfl, fun sy hm hnt => Classical.byContradiction fun hno =>
          hc ((markNT_any _ _).2 ⟨sy, hm, hnt, fun hin => ?_⟩)⟩
        obtain ⟨r, hr, he⟩ := List.mem_map.1 hin
        exact hno ⟨r, hr, he⟩

/-! ## grammars built by `buildGrammar` satisfy the hypothesis of the pigeonhole argument -/

theorem symId_mem (syms : List Sym) (n : String) (l : Nat) (h : symId syms n = some l) :
    ∃ sy ∈ syms, sy.id = l := by
  unfold symId at h
  obtain ⟨sy, hf, rfl⟩ := Option.map_eq_some_iff.1 h
  exact ⟨sy, List.mem_reverse.1 (List.mem_of_find?_eq_some hf), rfl⟩

theorem buildSyms_zero (ds : Decls) : ∃ sy ∈ buildSyms ds, sy.id = 0 := by
  unfold buildSyms
  exact ⟨_, List.mem_append_left _ List.mem_cons_self, rfl⟩

theorem buildRules_lhs (ds : Decls) (s : Sym) (vs : List VRule) (rs : List GRule)
    (h : buildRules (buildSyms ds) s vs = .ok rs) : ∀ r ∈ rs, ∃ sy ∈ buildSyms ds, sy.id = r.lhs := by
  unfold buildRules at h
  rcases ruleFold_cases (buildSyms ds) vs [⟨0, [s.id], -1⟩] with ⟨_, rs', hrs, hlhs⟩ | ⟨_, w, hw⟩
  · rw [hrs] at h; cases h
    intro r hr
    rcases List.mem_cons.1 hr with rfl | hr
    · exact buildSyms_zero ds
    · obtain ⟨n, hn⟩ := hlhs r hr
      exact symId_mem _ n _ hn
  · rw [hw] at h; cases h

theorem buildGrammar_lhs_in_syms (ds : Decls) (vs : List VRule) (b : Built)
    (h : buildGrammar ds vs = .ok b) : LhsInSyms b := by
  obtain ⟨s, rs, _, hrs, hr, hsy, _⟩ := buildGrammar_ok ds vs b h
  intro r hm
  rw [hr] at hm
  obtain ⟨sy, hsm, hid⟩ := buildRules_lhs ds s vs rs hrs r hm
  rw [hsy]
  unfold markNT
  refine ⟨_, List.mem_map.2 ⟨sy, hsm, rfl⟩, ?_⟩
  split <;> exact hid

/-- on every grammar `buildGrammar` returns, `productive` is exactly the set of productive symbols -/
theorem C12_productive_exact_built (ds : Decls) (vs : List VRule) (b : Built)
    (h : buildGrammar ds vs = .ok b) (x : Nat) : x ∈ productive b ↔ Productive b x :=
  C12_productive_exact b _ (C12_productive_stable b (buildGrammar_lhs_in_syms ds vs b h)) x

/-- **C12 (verdict against the specification).** `front` refuses with `unproductive` exactly when
    some symbol marked nonterminal derives no terminal string, and otherwise returns the grammar. -/
theorem C12_verdict_spec (r : YParse.Root) (ds ds' : Decls) (vs : List VRule) (b : Built)
    (h1 : processDecl r.decl = .ok ds) (h2 : processRules ds r.rules = .ok (ds', vs))
    (h3 : buildGrammar ds' vs = .ok b) :
    (front r = .error .unproductive ↔ ∃ sy ∈ b.syms, sy.isNT = true ∧ ¬ Productive b sy.id) ∧
    (front r = .ok b ↔ ∀ sy ∈ b.syms, sy.isNT = true → Productive b sy.id) := by
  obtain ⟨_, hok, hiff⟩ := C12_verdict r ds ds' vs b h1 h2 h3
  simp only [C12_productive_exact_built ds' vs b h3] at hok hiff
  refine ⟨hiff, fun hf sy hm hnt => Classical.byContradiction fun hn => ?_, hok⟩
  have := hiff.2 ⟨sy, hm, hnt, hn⟩
  rw [hf] at this; cases this

/-! ## non-vacuity -/

/-- `start → A`, `A → tok`, `B → B`: `B` is unproductive -/
def exBuilt : Built :=
  { syms := [⟨0, "start", 0, "", true, -1, 2⟩, ⟨1, "$", -1, "", false, -1, 2⟩, ⟨2, "tok", 3, "", false, -1, 2⟩,
             ⟨3, "A", 4, "", true, -1, 2⟩, ⟨4, "B", 5, "", true, -1, 2⟩],
    rules := [⟨0, [3], -1⟩, ⟨3, [2], -1⟩, ⟨4, [4], -1⟩], nT := 2 }

example : productiveChecked exBuilt = some [1, 2, 3, 0] := by decide
example : Productive exBuilt 0 := (C12_productive_exact exBuilt [1, 2, 3, 0] (by decide) 0).1 (by decide)
example : ¬ Productive exBuilt 4 := fun h => absurd ((C12_productive_exact exBuilt [1, 2, 3, 0] (by decide) 4).2 h) (by decide)

/-- the hypothesis `LhsInSyms` of `C12_productive_stable` cannot be dropped: with left-hand sides
    outside the symbol table the fixed number of sweeps can be too small, and the check says so -/
example : productiveChecked { syms := [], rules := [⟨3, [2], -1⟩, ⟨2, [1], -1⟩, ⟨1, [], -1⟩], nT := 0 } = none := by
  decide

end Visitor
