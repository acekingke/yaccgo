import Yv.Gen.Facts
/-! # C19 — a failed generation never damages an existing output file

Model: a generator run is a list of operations over an abstract file system (one output path).
`fallible` = a step that can fail for a reason attributable to the input (lexing, parsing, building
the tables, building the code fragments — `$n` out of range panics there); `create` truncates the
output file and opens it; `write s` appends to the opened file. An oracle says which fallible step
fails. `C19_atomic_on_failure`: if every fallible step precedes `create`, a failing run leaves the
file system exactly as it was; `C19_success_content`: a successful run leaves exactly the
concatenation of the writes that follow `create`.
The tie to the code: the call sequences of `TemplateGenFromString` / `TsGenFromString` are extracted
from the current sources by the translator (`Gen.calls_*`), which also classifies them in the vocabulary
`GenOps.Op` (`Gen.ops_*`; a call it does not know counts as fallible), and the
side conditions are decided by `decide` — so moving `os.Create` before a fallible step, or adding a
fallible call after it, breaks this file. OS behaviour (`os.Create` truncates, writes append) is the
model's assumption. -/
namespace C19

open GenOps

/-- the output file: `none` = absent, `some s` = present with content s -/
abbrev FS := Option String

/-- what a write appends: the epilogue or some other part (abstract contents) -/
def part (epilogue : Bool) : String := if epilogue then "E" else "p"

structure St where
  fs : FS
  opened : Bool

/-- run the operations; `fails n` says whether the n-th fallible step fails -/
def exec (fails : Nat → Bool) : List Op → Nat → St → St × Bool
  | [], _, st => (st, true)
  | .fallible :: ops, n, st => if fails n then (st, false) else exec fails ops (n + 1) st
  | .create :: ops, n, _ => exec fails ops n ⟨some "", true⟩
  | .write e :: ops, n, st =>
    exec fails ops n (if st.opened then ⟨st.fs.map (· ++ part e), true⟩ else st)
  | .other :: ops, n, st => exec fails ops n st

def noFallible (ops : List Op) : Bool :=
  ops.all fun o => match o with | .fallible => false | _ => true

/-- no fallible step after the file has been created -/
def createAfterFallible : List Op → Bool
  | [] => true
  | .create :: ops => noFallible ops
  | _ :: ops => createAfterFallible ops

theorem exec_no_fallible (fails : Nat → Bool) (ops : List Op) (n : Nat) (st : St)
    (h : noFallible ops = true) : (exec fails ops n st).2 = true := by
  induction ops generalizing n st with
  | nil => rfl
  | cons o ops ih =>
    simp only [noFallible, List.all_cons, Bool.and_eq_true] at h
    cases o with
    | fallible => simp at h
    | create => exact ih _ _ h.2
    | write s => exact ih _ _ h.2
    | other => exact ih _ _ h.2

/-- content written by the writes of an operation list -/
def writes : List Op → String
  | [] => ""
  | .write e :: ops => part e ++ writes ops
  | _ :: ops => writes ops

theorem exec_opened (fails : Nat → Bool) (ops : List Op) (n : Nat) (c : String)
    (h : noFallible ops = true) (hc : ops.all (fun o => o != .create) = true) :
    (exec fails ops n ⟨some c, true⟩).1.fs = some (c ++ writes ops) := by
  induction ops generalizing n c with
  | nil => simp [exec, writes]
  | cons o ops ih =>
    simp only [noFallible, List.all_cons, Bool.and_eq_true] at h hc
    cases o with
    | fallible => simp at h
    | create => simp at hc
    | write s =>
      simp only [exec, if_true, Option.map_some, writes]
      rw [ih n (c ++ part s) h.2 hc.2, String.append_assoc]
    | other => simp only [exec, writes]; exact ih n c h.2 hc.2

/-- the operations after the (single) `create` -/
def afterCreate : List Op → Option (List Op)
  | [] => none
  | .create :: ops => some ops
  | _ :: ops => afterCreate ops

/-- A run whose fallible steps all come before `create`, on a file not yet opened: it fails and
    leaves everything as it was, or it succeeds and leaves the writes that follow `create`. -/
theorem exec_spec (fails : Nat → Bool) (ops : List Op) (n : Nat) (fs : FS)
    (h : createAfterFallible ops = true) :
    exec fails ops n ⟨fs, false⟩ = (⟨fs, false⟩, false) ∨
    ((exec fails ops n ⟨fs, false⟩).2 = true ∧ ∀ rest, afterCreate ops = some rest →
      rest.all (fun o => o != .create) = true →
      (exec fails ops n ⟨fs, false⟩).1.fs = some (writes rest)) := by
  induction ops generalizing n with
  | nil => exact .inr ⟨rfl, nofun⟩
  | cons o ops ih =>
    cases o with
    | fallible =>
      simp only [exec]
      split
      · exact .inl rfl
      · exact ih (n + 1) h
    | create =>
      refine .inr ⟨exec_no_fallible fails ops n _ h, fun rest ha hc => ?_⟩
      cases ha
      simpa [exec] using exec_opened fails ops n "" h hc
    | write s => simp only [exec, Bool.false_eq_true, if_false]; exact ih n h
    | other => exact ih n h

/-- A failed run leaves the file system untouched (the file has not been opened before the run). -/
theorem C19_atomic_on_failure (fails : Nat → Bool) (ops : List Op) (n : Nat) (fs : FS)
    (h : createAfterFallible ops = true) (hf : (exec fails ops n ⟨fs, false⟩).2 = false) :
    (exec fails ops n ⟨fs, false⟩).1.fs = fs := by
  rcases exec_spec fails ops n fs h with he | ⟨hs, _⟩
  · rw [he]
  · rw [hs] at hf; cases hf

/-- A successful run leaves exactly the concatenation of the writes that follow `create`. -/
theorem C19_success_content (fails : Nat → Bool) (ops rest : List Op) (n : Nat) (fs : FS)
    (h : createAfterFallible ops = true) (ha : afterCreate ops = some rest)
    (hc : rest.all (fun o => o != .create) = true)
    (hs : (exec fails ops n ⟨fs, false⟩).2 = true) :
    (exec fails ops n ⟨fs, false⟩).1.fs = some (writes rest) := by
  rcases exec_spec fails ops n fs h with he | ⟨_, hw⟩
  · rw [he] at hs; cases hs
  · exact hw rest ha hc

/-! ## The tie to the current sources -/

def goOps : List Op := Gen.ops_TemplateGenFromString
def tsOps : List Op := Gen.ops_TsGenFromString

/-- source facts the theorems are applied to; a changed call order breaks these `decide`s -/
theorem go_create_after_fallible : createAfterFallible goOps = true := by decide
theorem ts_create_after_fallible : createAfterFallible tsOps = true := by decide
theorem go_single_create : (afterCreate goOps).map (fun r => r.all (fun o => o != .create)) = some true := by decide
theorem ts_single_create : (afterCreate tsOps).map (fun r => r.all (fun o => o != .create)) = some true := by decide

def lastWrite (ops : List Op) : Option Bool :=
  (ops.filterMap (fun o => match o with | .write e => some e | _ => none)).getLast?

/-- both generators write the epilogue last (for Go: the template, which ends with the epilogue slot) -/
theorem last_write_is_epilogue : lastWrite goOps = some true ∧ lastWrite tsOps = some true := by decide
theorem go_templates_end_with_epilogue :
    Gen.templ_goCode_ends_with_epilogue = true ∧ Gen.templ_goObject_ends_with_epilogue = true ∧
    Gen.templ_goCode_same_as_go_string = true ∧ Gen.templ_goObject_same_as_go_string = true := by decide

/-- C19 for the Go generator: `goOps` is its call sequence, extracted from the sources -/
theorem C19_go (fails : Nat → Bool) (fs : FS) (hf : (exec fails goOps 0 ⟨fs, false⟩).2 = false) :
    (exec fails goOps 0 ⟨fs, false⟩).1.fs = fs :=
  C19_atomic_on_failure fails goOps 0 fs go_create_after_fallible hf

/-- C19 for the TypeScript generator: `tsOps` is its call sequence, extracted from the sources -/
theorem C19_ts (fails : Nat → Bool) (fs : FS) (hf : (exec fails tsOps 0 ⟨fs, false⟩).2 = false) :
    (exec fails tsOps 0 ⟨fs, false⟩).1.fs = fs :=
  C19_atomic_on_failure fails tsOps 0 fs ts_create_after_fallible hf

/-- non-vacuity: a run in which the 4th fallible step fails leaves an existing file untouched -/
example : (exec (fun n => n == 3) tsOps 0 ⟨some "old", false⟩).2 = false ∧
    (exec (fun n => n == 3) tsOps 0 ⟨some "old", false⟩).1.fs = some "old" :=
  ⟨by decide, C19_ts _ _ (by decide)⟩
example : (exec (fun _ => false) tsOps 0 ⟨some "old", false⟩).2 = true := by decide

end C19
