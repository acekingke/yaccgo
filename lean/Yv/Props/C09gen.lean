import Yv.Proofs.LR0LFacts
import Yv.Props.C09
/-! # C09 for all grammars (on the model)

`buildL` (Yv/Model/LR0L.lean) is the list-based model of the implementation's LR(0) worklist, with
the implementation's state numbering and goto order.  Whenever it returns an automaton — i.e.
unless a closure computation fails its closedness check or the 2000-state cap is hit — that
automaton passes the certificate `certCanon`, hence (by `C09_canonical`) it *is* the canonical
LR(0) collection.  No hypothesis on the grammar is needed. -/
namespace Y.Props
open Y

/-- equal item sets give equal item lists (so looking a closure up by list equality is looking it
    up as a set) -/
theorem C09_gen_closureS_canonical {l₁ l₂ : List Item} (h : sameElems l₁ l₂ = true)
    (h1 : SortedI l₁) (h2 : SortedI l₂) : l₁ = l₂ := sorted_ext h1 h2 (sameElems_iff.mp h)

/-- the sorted closure is strictly sorted and has exactly the elements of the LR(0) closure -/
theorem C09_gen_closureS (G : Grammar) (k cl : List Item) (h : closureS G k = some cl) :
    SortedI cl ∧ ∀ it, it ∈ cl ↔ Cl0 G (fun x => x ∈ k) it :=
  ⟨closureS_sorted h, isClosureOf_ok (closureS_isClosureOf h)⟩

/-- **C09, generator side.** The automaton built by the worklist always passes the
    canonical-collection certificate. -/
theorem C09_gen (G : Grammar) (A : Auto) (h : buildL G = some A) : certCanon G A = true :=
  let ⟨inv, hd⟩ := buildL_inv h
  certCanon_of_inv inv hd

/-- the same, as propositions -/
theorem C09_gen_ok (G : Grammar) (A : Auto) (h : buildL G = some A) : CanonOK G A :=
  certCanon_ok (C09_gen G A h)

/-- **C09 for all grammars.** The automaton built by the worklist is the canonical LR(0)
    collection: the six conjuncts of `C09_canonical`. -/
theorem C09_gen_canonical (G : Grammar) (A : Auto) (h : buildL G = some A) :
    -- every state is a canonical set
    (∀ q, q < A.n → ∃ S, Canon G S ∧ ∀ it, it ∈ A.its q ↔ S it) ∧
    -- every canonical set is a state
    (∀ S, Canon G S → ∃ q, q < A.n ∧ ∀ it, it ∈ A.its q ↔ S it) ∧
    -- no duplicates
    (∀ q p, q < A.n → p < A.n → (∀ it, it ∈ A.its q ↔ it ∈ A.its p) → q = p) ∧
    -- state 0 is the start state
    (∀ it, it ∈ A.its 0 ↔ Cl0 G (fun x => x = ⟨0, 0⟩) it) ∧
    -- transitions: exactly on the symbols after a dot, to the closure of the advanced items
    (∀ q X, q < A.n →
      ((∃ it ∈ A.its q, (G.rhsOf it.r)[it.d]? = some X) ↔ ∃ p, A.goto q X = some p)) ∧
    (∀ q X p, q < A.n → A.goto q X = some p →
      p < A.n ∧ ∀ it, it ∈ A.its p ↔ Cl0 G (adv0 G X (fun x => x ∈ A.its q)) it) :=
  C09_canonical G A (C09_gen G A h)

/-- the hygiene facts of `C09_hygiene` for the built automaton -/
theorem C09_gen_hygiene (G : Grammar) (A : Auto) (h : buildL G = some A) :
    A.gotos.length = A.n ∧
    (∀ q, q < A.n → ((A.gts q).map Prod.fst).Nodup) ∧
    (∀ q X p, q < A.n → ((X, p) ∈ A.gts q ↔ A.goto q X = some p)) ∧
    (∀ q, q < A.n → (A.its q).Nodup) ∧
    (∀ p, p < A.n → p ≠ 0 → ∃ q X, q < p ∧ A.goto q X = some p) :=
  C09_hygiene G A (C09_gen G A h)

/-- Layout facts beyond the certificate (they pin down the *lists*, not only the sets): every
    state's item list is strictly sorted by (rule, dot); two states never have the same item list;
    the goto list of a state mentions the symbols after its dots in order of first occurrence. -/
theorem C09_gen_layout (G : Grammar) (A : Auto) (h : buildL G = some A) :
    (∀ q, q < A.n → SortedI (A.its q)) ∧
    (∀ p q, p < q → q < A.n → A.its p ≠ A.its q) ∧
    (∀ q, q < A.n → (A.gts q).map Prod.fst = symsOf G (A.its q)) := by
  obtain ⟨inv, hd⟩ := buildL_inv h
  have hlen : A.gotos.length = A.items.length := Nat.le_antisymm inv.le hd
  exact ⟨inv.ok.sorted, inv.ok.distinct, fun q hq => inv.syms q (hlen ▸ hq)⟩

/-- The fuel of `buildL` (cap + 1 rounds) is never what makes it return `none`: any larger fuel
    gives the same result.  So `buildL G = none` only when a closure computation fails its
    closedness check or the implementation's cap of 2000 states is reached. -/
theorem C09_gen_fuel (G : Grammar) (s0 : List Item) (n : Nat) :
    loopL G (stateCap + 1 + n) [s0] [] = loopL G (stateCap + 1) [s0] [] := by
  induction n with
  | zero => rfl
  | succ n ih =>
    rw [← Nat.add_assoc, loopL_fuel_succ (sts := [s0]) (gts := []) (Nat.zero_le _)
      (show 1 < 2000 by decide) (by simp only [List.length_nil]; omega), ih]

/-! ## Non-vacuity: on the example grammar of C01 the worklist returns exactly the automaton
    `exA` (same numbering, same goto order). -/

example : (buildL exG).map (fun A => (A.items, A.gotos)) = some (exA.items, exA.gotos) := by decide

example : closureS exG [⟨1, 1⟩] = some [⟨1, 0⟩, ⟨1, 1⟩, ⟨2, 0⟩] := by decide

example : kernels exG [⟨1, 0⟩, ⟨1, 1⟩, ⟨2, 0⟩] = [(2, [⟨1, 1⟩]), (4, [⟨1, 2⟩]), (3, [⟨2, 1⟩])] := by
  decide

end Y.Props

#print axioms Y.Props.C09_gen
#print axioms Y.Props.C09_gen_canonical
#print axioms Y.Props.C09_gen_layout
