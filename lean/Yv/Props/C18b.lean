import Yv.Model.Listing
import Yv.Model.ListingDrv
import Yv.Props.C18
/-! # C18 (text half) — the state listing of `yaccgo debug` shows exactly the automaton

`listingView names G A` (Yv/Model/Listing.lean) is the listing that `Grammar.Show` prints for the item
collections `A`, kept structured: per state its number, its item lines and its goto lines.
`laLineStr` is a line of the `Show LookAhead SET` section.

Nothing extra, nothing missing, numbered as in the tables (`C18_listing_states`): one entry per state in
order; entry `q` lists the items of state `q` and the gotos of state `q`, in their stored order.
The lines determine what they print, so two automata with the same listing have the same states with the
same items and the same goto lists, and a lookahead line is in its section iff its entry is.
Hypotheses on the spellings, all explicit: injective throughout; no blank in a name for item and lookahead
lines; no name exactly `":"` for lookahead lines.  (No condition on `@`, `-`, `>`: a name is always printed
between two blanks, the dot never is.) -/
namespace Y.Props
open Y

def listStateOf (names : Nat → String) (G : Grammar) (A : Auto) (q : Nat) : ListState :=
  { state := q,
    items := (A.its q).map (listItemStr names G),
    gotos := (A.gts q).map (listGotoStr names) }

theorem listingView_eq (names : Nat → String) (G : Grammar) (A : Auto) :
    listingView names G A = (List.range A.n).map (listStateOf names G A) := rfl

theorem listingView_get (names : Nat → String) (G : Grammar) (A : Auto) (q : Nat) (hq : q < A.n) :
    (listingView names G A)[q]? = some (listStateOf names G A q) :=
  getElem?_map_range _ hq

/-- **C18, listing: nothing extra, nothing missing, numbered as in the tables.**  The listing has exactly
    one entry per state, in order, numbered `0 … n-1`; entry `q` lists exactly the items of state `q`, in
    order, each printed as `ShowCloure` prints it, and exactly the gotos of state `q`, in stored order. -/
theorem C18_listing_states (names : Nat → String) (G : Grammar) (A : Auto) :
    (listingView names G A).map (·.state) = List.range A.n ∧
    (listingView names G A).length = A.n ∧
    ∀ q, q < A.n → ∃ st, (listingView names G A)[q]? = some st ∧ st.state = q ∧
      st.items = (A.its q).map (listItemStr names G) ∧
      st.gotos = (A.gts q).map (listGotoStr names) := by
  refine ⟨?_, by simp [listingView_eq], fun q hq => ⟨_, listingView_get names G A q hq, rfl, rfl, rfl⟩⟩
  rw [listingView_eq, List.map_map]
  exact List.map_id'' (fun _ => rfl) _

theorem listItemStr_toList (names : Nat → String) (G : Grammar) (it : Item) :
    (listItemStr names G it).toList = (names (G.lhsOf it.r)).toList ++ ('-' :: '-' :: '>' ::
      ((symsStr names ((G.rhsOf it.r).take it.d)).toList ++
        '@' :: (symsStr names ((G.rhsOf it.r).drop it.d)).toList)) := by
  simp [listItemStr]

/-- splitting `lhs-->…@…` at the left-hand side: the first blank follows either `-->` or `-->@`, and
    the two are told apart by their last character -/
theorem lhs_split (names : Nat → String) (hinj : ∀ a b, names a = names b → a = b)
    (hnb : ∀ x, ∀ c ∈ (names x).toList, ¬ c = ' ') (x y : Sym) (xs ys zs ws : List Sym)
    (h : (names x).toList ++ ('-' :: '-' :: '>' ::
          ((symsStr names xs).toList ++ '@' :: (symsStr names zs).toList)) =
        (names y).toList ++ ('-' :: '-' :: '>' ::
          ((symsStr names ys).toList ++ '@' :: (symsStr names ws).toList))) :
    x = y ∧ (symsStr names xs).toList ++ '@' :: (symsStr names zs).toList =
      (symsStr names ys).toList ++ '@' :: (symsStr names ws).toList := by
  have hz := symsStr_head names zs
  have hw := symsStr_head names ws
  cases xs <;> cases ys
  · obtain ⟨h1, h2⟩ := name_split names hinj _ hnb ['-', '-', '>', '@'] (by decide) x y _ _ hz hw h
    exact ⟨h1, by rw [h2]⟩
  · rw [symsStr_cons] at h
    simpa using congrArg List.getLast? (word_split names _ hnb ['-', '-', '>', '@'] ['-', '-', '>']
      (by decide) (by decide) x y _ _ hz (by simp) h).1
  · rw [symsStr_cons] at h
    simpa using congrArg List.getLast? (word_split names _ hnb ['-', '-', '>'] ['-', '-', '>', '@']
      (by decide) (by decide) x y _ _ (by simp) hw h).1
  · simp only [symsStr_cons] at h ⊢
    exact name_split names hinj _ hnb ['-', '-', '>'] (by decide) x y _ _ (by simp) (by simp) h

/-- the item line determines the item's content: the left-hand side, the right-hand side and the
    position of the dot — for spellings that are injective and contain no blank -/
theorem list_item_str_injective (names : Nat → String) (G : Grammar)
    (hinj : ∀ a b, names a = names b → a = b)
    (hnb : ∀ x, ∀ c ∈ (names x).toList, ¬ c = ' ')
    (it it' : Item) (hd : it.d ≤ (G.rhsOf it.r).length) (hd' : it'.d ≤ (G.rhsOf it'.r).length)
    (h : listItemStr names G it = listItemStr names G it') :
    G.lhsOf it.r = G.lhsOf it'.r ∧ G.rhsOf it.r = G.rhsOf it'.r ∧ it.d = it'.d := by
  have h1 := congrArg String.toList h
  rw [listItemStr_toList, listItemStr_toList] at h1
  obtain ⟨hl, ht⟩ := lhs_split names hinj hnb _ _ _ _ _ _ h1
  obtain ⟨hpre, hpost⟩ := symsStr_split names hinj hnb _ _ _ _ (by simp) (by simp) ht
  exact ⟨hl, take_drop_inj hd hd' hpre (symsStr_inj names hinj hnb _ _ (List.cons.inj hpost).2)⟩

theorem list_item_str_injective' (names : Nat → String) (G : Grammar)
    (hinj : ∀ a b, names a = names b → a = b)
    (hnb : ∀ x, ∀ c ∈ (names x).toList, ¬ c = ' ')
    (hnd : G.rules.Nodup) (it it' : Item)
    (hv : it.r < G.rules.length ∧ it.d ≤ (G.rhsOf it.r).length)
    (hv' : it'.r < G.rules.length ∧ it'.d ≤ (G.rhsOf it'.r).length)
    (h : listItemStr names G it = listItemStr names G it') : it = it' :=
  item_eq_of_content G hnd hv.1 hv'.1 (list_item_str_injective names G hinj hnb it it' hv.2 hv'.2 h)

theorem listGotoStr_toList (names : Nat → String) (e : Sym × Nat) :
    (listGotoStr names e).toList =
      ((("at ".toList ++ (names e.1).toList) ++ " goto ".toList) ++ Nat.toDigits 10 e.2) ++ " ".toList := by
  rw [listGotoStr, String.toList_append, String.toList_append, String.toList_append,
    String.toList_append, toString_nat_toList]

/-- the goto line determines the symbol and the target state (read from the right end: the digits of
    the target, then ` goto `, then the name — no condition on the characters of the names) -/
theorem list_goto_str_injective (names : Nat → String) (hinj : ∀ a b, names a = names b → a = b)
    (e e' : Sym × Nat) (h : listGotoStr names e = listGotoStr names e') : e = e' := by
  have h1 := congrArg String.toList h
  rw [listGotoStr_toList, listGotoStr_toList] at h1
  obtain ⟨h2, hp⟩ := digits_split_right _ _ _ _ (by rw [List.getLast?_append]; simp)
    (by rw [List.getLast?_append]; simp) (List.append_cancel_right h1)
  exact Prod.ext
    (hinj _ _ (String.toList_inj.1 (List.append_cancel_left (List.append_cancel_right h2)))) hp

theorem laLineStr_toList (names : Nat → String) (G : Grammar) (q r : Nat) (la : List Sym) :
    (laLineStr names G q r la).toList = Nat.toDigits 10 q ++ (':' :: ((names (G.lhsOf r)).toList ++
      ('-' :: '-' :: '>' :: ((symsStr names (G.rhsOf r)).toList ++
        (' ' :: ':' :: ' ' :: (laStr names la).toList))))) := by
  simp [laLineStr]

/-- the lookahead line determines the state, the content of the rule (left-hand side and right-hand
    side) and the list of lookahead symbols — for spellings that are injective, contain no blank, and of
    which none is exactly `:` (so the separator ` : ` is not a right-hand-side symbol) -/
theorem la_line_injective (names : Nat → String) (G : Grammar)
    (hinj : ∀ a b, names a = names b → a = b)
    (hnb : ∀ x, ∀ c ∈ (names x).toList, ¬ c = ' ')
    (hcolon : ∀ x, names x ≠ ":")
    (q q' r r' : Nat) (la la' : List Sym)
    (h : laLineStr names G q r la = laLineStr names G q' r' la') :
    q = q' ∧ G.lhsOf r = G.lhsOf r' ∧ G.rhsOf r = G.rhsOf r' ∧ la = la' := by
  have sep : ∀ (L : List Char) x u, ' ' :: ':' :: ' ' :: L ≠ ' ' :: ((names x).toList ++ ' ' :: u) := by
    intro L x u e
    have := (split_sep (· = ' ') [':'] _ _ _ (by decide) (hnb x) (by simp) (by simp)
      (List.cons.inj e).2).1
    exact hcolon x (String.toList_inj.1 (by rw [← this]; rfl))
  have h1 := congrArg String.toList h
  rw [laLineStr_toList, laLineStr_toList] at h1
  obtain ⟨hq, h2⟩ := digits_split _ _ _ _ (by simp) (by simp) h1
  obtain ⟨hl, h3⟩ := name_split names hinj _ hnb ['-', '-', '>'] (by decide) _ _ _ _
    (head?_append_of (symsStr_head _ _) (by simp)) (head?_append_of (symsStr_head _ _) (by simp))
    (List.cons.inj h2).2
  obtain ⟨hr, h4⟩ := symsStr_split names hinj hnb _ _ _ _ (sep _) (sep _) h3
  simp only [List.cons.injEq, true_and] at h4
  exact ⟨hq, hl, hr, laStr_inj names hinj hnb _ _ h4⟩

/-- **C18, lookahead section.**  The section printed for the entries `L` (in whatever order) consists of
    exactly one line per entry, and — for distinct rules and clean spellings — the line of
    `(q, r, la)` is in the section iff `(q, r, la)` is an entry: nothing extra, nothing missing. -/
theorem C18_listing_la (names : Nat → String) (G : Grammar)
    (hinj : ∀ a b, names a = names b → a = b)
    (hnb : ∀ x, ∀ c ∈ (names x).toList, ¬ c = ' ')
    (hcolon : ∀ x, names x ≠ ":") (hnd : G.rules.Nodup)
    (L : List (Nat × Nat × List Sym)) (hL : ∀ e ∈ L, e.2.1 < G.rules.length) :
    (laView names G L).length = L.length ∧
    (∀ l, l ∈ laView names G L ↔ ∃ e ∈ L, l = laLineStr names G e.1 e.2.1 e.2.2) ∧
    ∀ q r la, r < G.rules.length → (laLineStr names G q r la ∈ laView names G L ↔ (q, r, la) ∈ L) := by
  refine ⟨by simp [laView], fun l => ?_, fun q r la hr => ?_⟩
  · simp only [laView, List.mem_map, eq_comm]
  · refine mem_map_inj_on _ L (q, r, la) fun e he h => ?_
    obtain ⟨hq, h1, h2, hla⟩ := la_line_injective names G hinj hnb hcolon _ _ _ _ _ _ h
    exact Prod.ext hq (Prod.ext (rule_index_inj G hnd (hL e he) hr h1 h2) hla)

/-- **C18, listing: the listing determines the automaton.**  Two automata with the same listing (for
    spellings that are injective and contain no blank; distinct rules; items that are items of the
    grammar) have the same number of states, the same states with the same items, and in every state the
    same goto list (same symbols, same targets, same order). -/
theorem C18_listing_determines (names : Nat → String) (G : Grammar) (A A' : Auto)
    (hinj : ∀ a b, names a = names b → a = b)
    (hnb : ∀ x, ∀ c ∈ (names x).toList, ¬ c = ' ')
    (hnd : G.rules.Nodup)
    (hval : ∀ q, ∀ it ∈ A.its q, it.r < G.rules.length ∧ it.d ≤ (G.rhsOf it.r).length)
    (hval' : ∀ q, ∀ it ∈ A'.its q, it.r < G.rules.length ∧ it.d ≤ (G.rhsOf it.r).length)
    (h : listingView names G A = listingView names G A') :
    A.n = A'.n ∧ A.items = A'.items ∧ (∀ q, q < A.n → A.its q = A'.its q) ∧
    (∀ q, q < A.n → A.gts q = A'.gts q) := by
  obtain ⟨hn, hq⟩ := map_range_inj h
  have hits : ∀ q, q < A.n → A.its q = A'.its q := by
    intro q hlt
    apply map_inj_on (listItemStr names G) _ _ _ (congrArg ListState.items (hq q hlt))
    exact fun x hx y hy =>
      list_item_str_injective' names G hinj hnb hnd x y (hval q x hx) (hval' q y hy)
  exact ⟨hn, ext_getD hn hits, hits, fun q hlt => map_inj_on (listGotoStr names) _ _
    (fun x _ y _ => list_goto_str_injective names hinj x y) (congrArg ListState.gotos (hq q hlt))⟩

/-- … and so, when both carry one goto list per state (as `certA` checks), they are the same automaton -/
theorem C18_listing_determines_auto (names : Nat → String) (G : Grammar) (A A' : Auto)
    (hinj : ∀ a b, names a = names b → a = b)
    (hnb : ∀ x, ∀ c ∈ (names x).toList, ¬ c = ' ')
    (hnd : G.rules.Nodup)
    (hval : ∀ q, ∀ it ∈ A.its q, it.r < G.rules.length ∧ it.d ≤ (G.rhsOf it.r).length)
    (hval' : ∀ q, ∀ it ∈ A'.its q, it.r < G.rules.length ∧ it.d ≤ (G.rhsOf it.r).length)
    (hg : A.gotos.length = A.n) (hg' : A'.gotos.length = A'.n)
    (h : listingView names G A = listingView names G A') : A = A' := by
  obtain ⟨hn, hi, _, hgt⟩ := C18_listing_determines names G A A' hinj hnb hnd hval hval' h
  have : A.gotos = A'.gotos := ext_getD (by omega) fun q hlt => hgt q (hg ▸ hlt)
  cases A; cases A'
  exact congr (congrArg Auto.mk hi) this

/-- conversely the listing depends only on the item lists and the goto lists of the states -/
theorem C18_listing_determined (names : Nat → String) (G : Grammar) (A A' : Auto)
    (hi : A.items = A'.items) (hg : ∀ q, q < A.n → A.gts q = A'.gts q) :
    listingView names G A = listingView names G A' := by
  have hn : A.n = A'.n := by unfold Auto.n; rw [hi]
  rw [listingView_eq, listingView_eq, ← hn]
  apply List.map_congr_left
  intro q hq
  unfold listStateOf Auto.its
  rw [hi, hg q (List.mem_range.1 hq)]

/-- membership form: for clean spellings, an item line / a goto line is listed in entry `q` iff the
    item / the goto belongs to state `q` -/
theorem C18_listing_mem (names : Nat → String) (G : Grammar) (A : Auto)
    (hinj : ∀ a b, names a = names b → a = b)
    (hnb : ∀ x, ∀ c ∈ (names x).toList, ¬ c = ' ')
    (hnd : G.rules.Nodup)
    (hval : ∀ q, ∀ it ∈ A.its q, it.r < G.rules.length ∧ it.d ≤ (G.rhsOf it.r).length)
    (q : Nat) (hq : q < A.n) :
    ∃ st, (listingView names G A)[q]? = some st ∧
      (∀ it : Item, it.r < G.rules.length → it.d ≤ (G.rhsOf it.r).length →
        (listItemStr names G it ∈ st.items ↔ it ∈ A.its q)) ∧
      (∀ e : Sym × Nat, listGotoStr names e ∈ st.gotos ↔ e ∈ A.gts q) :=
  ⟨listStateOf names G A q, listingView_get names G A q hq,
    fun it hr hd => mem_map_inj_on _ _ it fun it' hm =>
      list_item_str_injective' names G hinj hnb hnd it' it (hval q it' hm) ⟨hr, hd⟩,
    fun e => mem_map_inj_on _ _ e fun e' _ => list_goto_str_injective names hinj e' e⟩

/-! ## the driver entry point prints the verified view -/

theorem listingLines_fst (names : Array String) (G : Grammar) (states : Array (List (Nat × Nat)))
    (gotos : Array (List (Nat × Nat))) (la : Array (Nat × Nat × List Nat)) :
    (listingLines names G states gotos la).1 =
      (listingView (namesOf names) G (autoOf states gotos)).flatMap stateLines := rfl

theorem listingLines_snd (names : Array String) (G : Grammar) (states : Array (List (Nat × Nat)))
    (gotos : Array (List (Nat × Nat))) (la : Array (Nat × Nat × List Nat)) :
    (listingLines names G states gotos la).2 =
      la.toList.map fun e => laLineStr (namesOf names) G e.1 e.2.1 e.2.2 := rfl

/-! ## Non-vacuity: the listing of the example automaton of C01
    (`S' → S ; S → a S | b`, symbols `$`=1, `a`=2, `b`=3, `S`=4), with the spellings `exNames` -/

example : (listingView exNames exG exA)[2]? =
    some ⟨2, ["S-->@ a  S ", "S--> a @ S ", "S-->@ b "], ["at a goto 2 ", "at S goto 4 ", "at b goto 3 "]⟩ := by
  decide +kernel
example : (listingView exNames exG exA).map (·.state) = [0, 1, 2, 3, 4] := by decide +kernel

/-- a three-state automaton (states 0, 1, 3 of the example, renumbered) -/
def exA3 : Auto :=
  { items := [[⟨0,0⟩, ⟨1,0⟩, ⟨2,0⟩], [⟨0,1⟩], [⟨2,1⟩]], gotos := [[(4,1), (3,2)], [], []] }

/-- the lines of its state section -/
example : listingLinesOf (listingView exNames exG exA3) =
    ["--------state 0------------", "start'-->@ S ", "S-->@ a  S ", "S-->@ b ", "GOTO:",
       "at S goto 1 ", "at b goto 2 ",
     "--------state 1------------", "start'--> S @", "GOTO:",
     "--------state 2------------", "S--> b @", "GOTO:"] := by decide +kernel

-- the exact text of its state section
set_option maxRecDepth 4000 in
example : renderStates (listingView exNames exG exA3) =
    "--------state 0------------\n" ++
    "start'-->@ S \n" ++
    "S-->@ a  S \n" ++
    "S-->@ b \n" ++
    "GOTO:\n" ++
    "at S goto 1 \n" ++
    "at b goto 2 \n" ++
    "--------state 1------------\n" ++
    "start'--> S @\n" ++
    "GOTO:\n" ++
    "--------state 2------------\n" ++
    "S--> b @\n" ++
    "GOTO:\n" := by decide +kernel

/-- a two-state automaton: its text is short enough to be compared at the default `maxRecDepth` -/
def exA2 : Auto := { items := [[⟨0,0⟩, ⟨2,0⟩], [⟨2,1⟩]], gotos := [[(3,1)], []] }

example : renderStates (listingView exNames exG exA2) =
    "--------state 0------------\nstart'-->@ S \nS-->@ b \nGOTO:\nat b goto 1 \n" ++
    "--------state 1------------\nS--> b @\nGOTO:\n" := by decide +kernel

example : laView exNames exG [(1, 0, [1]), (4, 1, [1]), (3, 2, [1, 2])] =
    ["1:start'--> S  :  $end", "4:S--> a  S  :  $end", "3:S--> b  :  $end a"] := by decide +kernel

/-- the hypotheses of the injectivity / determination theorems are satisfiable: the numbered spellings
    `s0, s1, …` on the example -/
example :
    (∀ a b, numNames a = numNames b → a = b) ∧
    (∀ x, ∀ c ∈ (numNames x).toList, ¬ c = ' ') ∧
    (∀ x, numNames x ≠ ":") ∧
    exG.rules.Nodup ∧
    (∀ q, ∀ it ∈ exA.its q, it.r < exG.rules.length ∧ it.d ≤ (exG.rhsOf it.r).length) ∧
    exA.gotos.length = exA.n := by
  refine ⟨numNames_inj, numNames_clean _ (by decide) (fun c h e => by subst e; cases h), fun x h => ?_,
    by decide, exA_items_valid, by decide⟩
  have := congrArg String.toList h
  rw [numNames_toList] at this
  simp at this

#print axioms C18_listing_states
#print axioms list_item_str_injective
#print axioms list_goto_str_injective
#print axioms la_line_injective
#print axioms C18_listing_la
#print axioms C18_listing_determines
#print axioms C18_listing_determines_auto
#print axioms C18_listing_determined
#print axioms C18_listing_mem

end Y.Props

