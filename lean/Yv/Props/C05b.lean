import Yv.Model.SplitA
import Yv.Props.C05
import Yv.Props.C01
/-! C05, second half: looking up any (state, symbol) through the packed arrays with their
    default-action and default-goto vectors returns exactly the entry of the uncompressed table.

    Composition proved: `TrySplitTable` (`PackX.trySplit`, or `trySplitWith choose` for an arbitrary
    default choice: the answer does not depend on how ties are broken) ; `PackTable` (the verified
    `PackA.packA`) ; generated lookup (`lookupA`).  Hypothesis: `DenseWF`, computed on the packed
    arrays, or `DenseSimple`, a condition on the dense table alone that implies it for every choice.
    The only fact used about the packing beyond `C05_pack_roundtrip` is `PackA.packA_hit_ne_zero`:
    a slot that passes the check-vector test holds a non-zero value. -/
namespace SplitA
open PackX

theorem trySplit_eq : PackX.trySplit = trySplitWith PackX.findMax := rfl

theorem getD_blank (r : List Int) (d : Int) (i : Nat) :
    (blank r d).getD i 0 = if r.getD i 0 = d then 0 else r.getD i 0 := by
  unfold blank
  simp only [List.getD_eq_getElem?_getD, List.getElem?_map]
  cases h : r[i]? with
  | none => simp
  | some v => simp

theorem getD_append_right (l l' : List Int) (n : Nat) (h : l.length ≤ n) :
    (l ++ l').getD n 0 = l'.getD (n - l.length) 0 := by
  simp [List.getD_eq_getElem?_getD, List.getElem?_append_right h]

theorem getD_take (l : List Int) (n i : Nat) (h : i < n) : (l.take n).getD i 0 = l.getD i 0 := by
  simp [List.getD_eq_getElem?_getD, h]

theorem length_blank (r : List Int) (d : Int) : (blank r d).length = r.length := by
  simp [blank]

/-- column `k` of the goto part -/
def gcol (T : List (List Int)) (nT k : Nat) : List Int := (T.map (·.drop (nT + 1))).map fun r => r.getD k 0

theorem length_tab (choose : List Int → Int) (T : List (List Int)) (nT : Nat) :
    (trySplitWith choose T nT).tab.length = T.length := by
  simp [trySplitWith, transpose]

theorem headD_length (T : List (List Int)) (nS : Nat) (hrect : ∀ r ∈ T, r.length = nS) (h : T ≠ []) :
    (T.headD []).length = nS := by
  cases T with
  | nil => exact absurd rfl h
  | cons x xs => exact hrect x (List.mem_cons_self ..)

/-- row `q` of the split table: the blanked action part of row `q`, then cell `q` of every blanked
    goto column -/
theorem row_eq (choose : List Int → Int) (T : List (List Int)) (nT q : Nat) (hq : q < T.length) :
    (trySplitWith choose T nT).tab.getD q [] =
      blank ((T.getD q []).take (nT + 1)) (choose ((T.getD q []).take (nT + 1))) ++
        (List.range ((T.headD []).length - nT - 1)).map fun k =>
          (blank (gcol T nT k) (choose (gcol T nT k))).getD q 0 := by
  simp [trySplitWith, transpose, List.getD_eq_getElem?_getD, hq, gcol, List.zip_map']

theorem row_length (T : List (List Int)) (nS : Nat) (hrect : ∀ r ∈ T, r.length = nS) (q : Nat)
    (hq : q < T.length) : (T.getD q []).length = nS :=
  hrect _ (Y.getD_mem [] hq)

theorem tab_rect (choose : List Int → Int) (T : List (List Int)) (nT nS : Nat)
    (hrect : ∀ r ∈ T, r.length = nS) (hnT : nT < nS) :
    ∀ r ∈ (trySplitWith choose T nT).tab, r.length = nS := by
  intro r hr
  obtain ⟨q, hq, rfl⟩ := List.getElem_of_mem hr
  have hq' : q < T.length := by rw [length_tab] at hq; exact hq
  have hne : T ≠ [] := by intro h; rw [h] at hq'; simp at hq'
  have : (trySplitWith choose T nT).tab[q] = (trySplitWith choose T nT).tab.getD q [] := by
    rw [List.getD_eq_getElem?_getD, List.getElem?_eq_getElem hq]; rfl
  rw [this, row_eq choose T nT q hq', List.length_append, length_blank, List.length_take,
    row_length T nS hrect q hq', headD_length T nS hrect hne, List.length_map, List.length_range]
  omega

theorem gcol_getD (T : List (List Int)) (nT k q : Nat) (hq : q < T.length) :
    (gcol T nT k).getD q 0 = (T.getD q []).getD (nT + 1 + k) 0 := by
  unfold gcol
  simp [List.getD_eq_getElem?_getD, hq]

theorem actdef_getD (choose : List Int → Int) (T : List (List Int)) (nT q : Nat) (hq : q < T.length) :
    (trySplitWith choose T nT).actdef.getD q 0 = choose ((T.getD q []).take (nT + 1)) := by
  unfold trySplitWith
  simp [List.getD_eq_getElem?_getD, hq]

theorem gtdef_getD (choose : List Int → Int) (T : List (List Int)) (nT k : Nat)
    (hk : k < (T.headD []).length - nT - 1) :
    (trySplitWith choose T nT).gtdef.getD k 0 = choose (gcol T nT k) := by
  unfold trySplitWith
  simp only [transpose, List.map_map]
  rw [Y.getD_map_range, if_pos hk]
  simp [gcol]

/-- every cell of the split table: 0 if the dense cell equals its default, else the dense cell -/
theorem tab_cell (choose : List Int → Int) (T : List (List Int)) (nT nS : Nat)
    (hrect : ∀ r ∈ T, r.length = nS) (hnT : nT < nS) (q a : Nat) (hq : q < T.length) (ha : a < nS) :
    ((trySplitWith choose T nT).tab.getD q []).getD a 0 =
      if (T.getD q []).getD a 0 = dflt (trySplitWith choose T nT) nT q a then 0
      else (T.getD q []).getD a 0 := by
  have hh := headD_length T nS hrect (List.ne_nil_of_length_pos (Nat.zero_lt_of_lt hq))
  -- the action part of a row has exactly `nT + 1` cells
  have hlen : ∀ d, (blank ((T.getD q []).take (nT + 1)) d).length = nT + 1 := fun d => by
    rw [length_blank, List.length_take, row_length T nS hrect q hq]; exact Nat.min_eq_left hnT
  rw [row_eq choose T nT q hq, hh]
  unfold dflt
  by_cases hc : a > nT
  · obtain ⟨k, rfl⟩ : ∃ k, a = nT + 1 + k := ⟨a - (nT + 1), by omega⟩
    have hk : nT + 1 + k - nT - 1 = k := by omega
    rw [if_pos hc, hk, gtdef_getD choose T nT k (by omega),
      getD_append_right _ _ _ (by rw [hlen]; omega), hlen, Nat.add_sub_cancel_left,
      Y.getD_map_range, if_pos (by omega), getD_blank, gcol_getD T nT _ q hq]
  · rw [if_neg hc, actdef_getD choose T nT q hq, Y.getD_append_left _ (by rw [hlen]; omega),
      getD_blank, getD_take _ _ _ (by omega)]

theorem C05_split_lookup_any (choose : List Int → Int) (T : List (List Int)) (nT nS : Nat) (err : Int)
    (hrect : ∀ r ∈ T, r.length = nS) (hnT : nT < nS) (hwf : DenseWFWith choose T nT nS err = true)
    (q a : Nat) (hq : q < T.length) (ha : a < nS) :
    lookupA (PackA.packA (trySplitWith choose T nT).tab) (trySplitWith choose T nT) nT err q a
      = (T.getD q []).getD a 0 := by
  simp only [DenseWFWith, List.all_eq_true, List.mem_range] at hwf
  have hc := hwf q hq a ha
  unfold cellOK at hc
  simp only [Bool.and_eq_true, Bool.or_eq_true, bne_iff_ne, ne_eq, beq_iff_eq, decide_eq_true_eq] at hc
  obtain ⟨h1, h2⟩ := hc
  have hq' : q < (trySplitWith choose T nT).tab.length := by rw [length_tab]; exact hq
  have hrt := PackA.C05_pack_roundtrip (trySplitWith choose T nT).tab
    (tab_rect choose T nT nS hrect hnT) q a hq' ha
  rw [tab_cell choose T nT nS hrect hnT q a hq ha] at hrt
  have hnz := PackA.packA_hit_ne_zero (trySplitWith choose T nT).tab q a hq'
  unfold PackA.unpackLookup at hrt hnz
  unfold lookupA
  show (if _ then _ else if _ then dflt (trySplitWith choose T nT) nT q a else _) = _
  generalize dflt (trySplitWith choose T nT) nT q a = d at *
  generalize (T.getD q []).getD a 0 = v at *
  generalize (PackA.packA (trySplitWith choose T nT).tab).off.getD q 0 + (a : Int) = o at *
  generalize (PackA.packA (trySplitWith choose T nT).tab).check.length = L at *
  generalize (PackA.packA (trySplitWith choose T nT).tab).check.getD o.toNat (-1) = c at *
  generalize (PackA.packA (trySplitWith choose T nT).tab).act.getD o.toNat 0 = x at *
  grind

theorem C05_split_lookup (T : List (List Int)) (nT nS : Nat) (err : Int)
    (hrect : ∀ r ∈ T, r.length = nS) (hnT : nT < nS) (hwf : DenseWF T nT nS err = true)
    (q a : Nat) (hq : q < T.length) (ha : a < nS) :
    lookupA (PackA.packA (PackX.trySplit T nT).tab) (PackX.trySplit T nT) nT err q a
      = (T.getD q []).getD a 0 :=
  C05_split_lookup_any PackX.findMax T nT nS err hrect hnT hwf q a hq ha

theorem nonblank_off (choose : List Int → Int) (T : List (List Int)) (nT nS : Nat)
    (hrect : ∀ r ∈ T, r.length = nS) (hnT : nT < nS) (q a : Nat) (hq : q < T.length) (ha : a < nS)
    (hnb : ((trySplitWith choose T nT).tab.getD q []).getD a 0 ≠ 0) :
    0 ≤ (PackA.packA (trySplitWith choose T nT).tab).off.getD q 0 + (a : Int) := by
  have hq' : q < (trySplitWith choose T nT).tab.length := by rw [length_tab]; exact hq
  have hrt := PackA.C05_pack_roundtrip (trySplitWith choose T nT).tab
    (tab_rect choose T nT nS hrect hnT) q a hq' ha
  rw [← hrt] at hnb
  unfold PackA.unpackLookup at hnb
  grind

theorem denseWF_of_simple (choose : List Int → Int) (T : List (List Int)) (nT nS : Nat) (err : Int)
    (hrect : ∀ r ∈ T, r.length = nS) (hnT : nT < nS) (hs : DenseSimple T nT err = true) :
    DenseWFWith choose T nT nS err = true := by
  unfold DenseWFWith
  simp only [List.all_eq_true, List.mem_range]
  intro q hq a ha
  have hl := row_length T nS hrect q hq
  unfold DenseSimple at hs
  simp only [List.all_eq_true, Bool.and_eq_true, bne_iff_ne, ne_eq, beq_iff_eq, List.any_eq_true] at hs
  obtain ⟨⟨hz, h0⟩, x, hx, hxe⟩ := hs _ (Y.getD_mem [] hq)
  have hv : ∀ b, b < nS → (T.getD q []).getD b 0 ≠ 0 := fun b hb => hz _ (Y.getD_mem 0 (by omega))
  -- a cell that differs from its default is stored, so its slot index is not negative
  have hoff : ∀ b, b < nS → (T.getD q []).getD b 0 ≠ dflt (trySplitWith choose T nT) nT q b →
      0 ≤ (PackA.packA (trySplitWith choose T nT).tab).off.getD q 0 + (b : Int) := fun b hb hne =>
    nonblank_off choose T nT nS hrect hnT q b hq hb
      (by rw [tab_cell choose T nT nS hrect hnT q b hq hb, if_neg hne]; exact hv b hb)
  have had : ∀ b, b ≤ nT → dflt (trySplitWith choose T nT) nT q b =
      choose ((T.getD q []).take (nT + 1)) := fun b hb => by
    unfold dflt
    rw [if_neg (by omega), actdef_getD choose T nT q hq]
  unfold cellOK
  simp only [Bool.and_eq_true, Bool.or_eq_true, bne_iff_ne, ne_eq, beq_iff_eq, decide_eq_true_eq]
  refine ⟨Or.inl (hv a ha), ?_⟩
  by_cases ho : 0 ≤ (PackA.packA (trySplitWith choose T nT).tab).off.getD q 0 + (a : Int)
  · exact Or.inl ho
  right
  by_cases hd : choose ((T.getD q []).take (nT + 1)) = err
  · -- the action default is err: some action cell a0 is not err, so it is stored and `a` lies below it
    obtain ⟨a0, ha0, rfl⟩ := List.getElem_of_mem hx
    rw [List.length_take, hl, Nat.min_eq_left hnT] at ha0
    rw [List.getElem_take, ← hd, ← had a0 (by omega)] at hxe
    have := hoff a0 (by omega) (by
      rw [List.getD_eq_getElem?_getD, List.getElem?_eq_getElem (show a0 < (T.getD q []).length by omega)]
      exact hxe)
    rw [had a (by omega), hd]
  · -- the action default is not err: column 0 (= err) is stored, so no index is negative
    have := hoff 0 (by omega) (by rw [had 0 (by omega), h0]; exact fun h => hd h.symm)
    omega

/-- the theorem under the criterion that looks at the dense table only, for ANY default choice -/
theorem C05_split_lookup_simple (choose : List Int → Int) (T : List (List Int)) (nT nS : Nat) (err : Int)
    (hrect : ∀ r ∈ T, r.length = nS) (hnT : nT < nS) (hs : DenseSimple T nT err = true)
    (q a : Nat) (hq : q < T.length) (ha : a < nS) :
    lookupA (PackA.packA (trySplitWith choose T nT).tab) (trySplitWith choose T nT) nT err q a
      = (T.getD q []).getD a 0 :=
  C05_split_lookup_any choose T nT nS err hrect hnT
    (denseWF_of_simple choose T nT nS err hrect hnT hs) q a hq ha

open Y.Props

/-- the split of the sample table of `Yv/Props/C01.lean` (5 states, nT = 3, one nonterminal) -/
theorem ex_tab : (PackX.trySplit exT 3).tab =
    [[0, 0, 2, 3, 1], [0, 205, 0, 0, 0], [0, 0, 2, 3, 4], [0, -2, 0, 0, 0], [0, -1, 0, 0, 0]] := by decide +kernel

example : (PackX.trySplit exT 3).actdef = [105, 105, 105, 105, 105] ∧
    (PackX.trySplit exT 3).gtdef = [105] := by decide +kernel

abbrev exTab : List (List Int) :=
  [[0, 0, 2, 3, 1], [0, 205, 0, 0, 0], [0, 0, 2, 3, 4], [0, -2, 0, 0, 0], [0, -1, 0, 0, 0]]

theorem ex_order : PackA.order exTab = [0, 2, 1, 3, 4] := by
  have c0 : PackA.cnt exTab 0 = 3 := by decide +kernel
  have c1 : PackA.cnt exTab 1 = 1 := by decide +kernel
  have c2 : PackA.cnt exTab 2 = 3 := by decide +kernel
  have c3 : PackA.cnt exTab 3 = 1 := by decide +kernel
  have c4 : PackA.cnt exTab 4 = 1 := by decide +kernel
  simp [PackA.order, List.mergeSort, List.range, List.range.loop, List.MergeSort.Internal.splitInTwo,
    c0, c1, c2, c3, c4]

theorem ex_packed : PackA.packA (PackX.trySplit exT 3).tab =
    { act := [205, 2, 3, 1, 2, 3, 4, -2, -1], off := [-1, -1, 2, 6, 7],
      check := [1, 0, 0, 0, 2, 2, 2, 3, 4] } := by
  rw [ex_tab]; unfold PackA.packA PackA.place; rw [ex_order]; decide +kernel

/-- the sample table is well-formed: evaluated directly ... -/
example : DenseWF exT 3 5 105 = true := by
  unfold DenseWF DenseWFWith
  rw [← trySplit_eq]
  simp only [ex_packed]
  decide +kernel

/-- ... and through the criterion on the dense table alone (no packing evaluated) -/
example : DenseSimple exT 3 105 = true := by decide +kernel

example : DenseWF exT 3 5 105 = true :=
  denseWF_of_simple PackX.findMax exT 3 5 105 (by decide) (by decide) (by decide)

/-- the generated lookup reproduces the whole dense table (direct evaluation).  Rows 0 and 1 have
    displacement -1 after the trim, so cells (0,0) and (1,0) go through the `off[q]+a < 0` branch. -/
example : ((List.range 5).map fun q => (List.range 5).map fun a =>
    lookupA (PackA.packA (PackX.trySplit exT 3).tab) (PackX.trySplit exT 3) 3 105 q a) = exT := by
  simp only [ex_packed]
  decide +kernel

/-- the general theorem instantiated: the `err` branch (cell (0,0)), a default action (cell (1,2)),
    a default goto (cell (1,4)), and a stored cell (cell (2,4)) -/
example : lookupA (PackA.packA (PackX.trySplit exT 3).tab) (PackX.trySplit exT 3) 3 105 0 0 = 105 :=
  C05_split_lookup exT 3 5 105 (by decide)
    (by decide) (denseWF_of_simple _ exT 3 5 105 (by decide) (by decide) (by decide)) 0 0 (by decide) (by decide)

example : lookupA (PackA.packA (PackX.trySplit exT 3).tab) (PackX.trySplit exT 3) 3 105 1 2 = 105 ∧
    lookupA (PackA.packA (PackX.trySplit exT 3).tab) (PackX.trySplit exT 3) 3 105 1 4 = 105 ∧
    lookupA (PackA.packA (PackX.trySplit exT 3).tab) (PackX.trySplit exT 3) 3 105 2 4 = 4 := by
  have h := C05_split_lookup exT 3 5 105 (by decide) (by decide)
    (denseWF_of_simple _ exT 3 5 105 (by decide) (by decide) (by decide))
  exact ⟨h 1 2 (by decide) (by decide), h 1 4 (by decide) (by decide), h 2 4 (by decide) (by decide)⟩

/-- tie-break independence, instantiated: a different default choice (always the first cell of the
    row / column) gives different arrays but the same answers -/
example (q a : Nat) (hq : q < 5) (ha : a < 5) :
    lookupA (PackA.packA (trySplitWith (fun r => r.getD 0 0) exT 3).tab)
      (trySplitWith (fun r => r.getD 0 0) exT 3) 3 105 q a = (exT.getD q []).getD a 0 :=
  C05_split_lookup_simple _ exT 3 5 105 (by decide) (by decide) (by decide) q a hq ha

example : (trySplitWith (fun r => r.getD 0 0) exT 3).gtdef = [1] ∧
    (PackX.trySplit exT 3).gtdef = [105] := by decide +kernel

theorem order_single (r : List Int) : PackA.order [r] = [0] := by
  simp [PackA.order, List.range, List.range.loop]

/-- (1) a 0 cell whose default is not 0 is lost: `DenseWF` is false and cell (0,1) reads 5, not 0 -/
example : DenseWF [[5, 0, 7]] 1 3 5 = false ∧
    lookupA (PackA.packA (PackX.trySplit [[5, 0, 7]] 1).tab) (PackX.trySplit [[5, 0, 7]] 1) 1 5 0 1 = 5 := by
  have ht : (PackX.trySplit [[5, 0, 7]] 1).tab = [[0, 0, 0]] := by decide +kernel
  have hp : PackA.packA (PackX.trySplit [[5, 0, 7]] 1).tab = { act := [], off := [-1], check := [] } := by
    rw [ht]; unfold PackA.packA PackA.place; rw [order_single]; decide +kernel
  unfold DenseWF DenseWFWith
  rw [← trySplit_eq]
  simp only [hp]
  decide +kernel

/-- (2) a negative slot index where the default is not `err`: `DenseWF` is false and cell (0,0)
    reads `err` = 5, not 7 -/
example : DenseWF [[7, 7, 9]] 1 3 5 = false ∧
    lookupA (PackA.packA (PackX.trySplit [[7, 7, 9]] 1).tab) (PackX.trySplit [[7, 7, 9]] 1) 1 5 0 0 = 5 := by
  have ht : (PackX.trySplit [[7, 7, 9]] 1).tab = [[0, 0, 0]] := by decide +kernel
  have hp : PackA.packA (PackX.trySplit [[7, 7, 9]] 1).tab = { act := [], off := [-1], check := [] } := by
    rw [ht]; unfold PackA.packA PackA.place; rw [order_single]; decide +kernel
  unfold DenseWF DenseWFWith
  rw [← trySplit_eq]
  simp only [hp]
  decide +kernel

end SplitA

#print axioms SplitA.C05_split_lookup
#print axioms SplitA.C05_split_lookup_any
#print axioms SplitA.C05_split_lookup_simple
#print axioms SplitA.denseWF_of_simple
#print axioms SplitA.trySplit_eq
