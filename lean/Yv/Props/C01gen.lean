import Yv.Proofs.GenTabFacts
import Yv.Proofs.GenTabCore
import Yv.Proofs.PipelineFacts
import Yv.Props.C09gen
import Yv.Props.C03
import Yv.Props.C01
import Yv.Props.C02
import Yv.Props.C06
/-! # C01 / C02 for all grammars (on the model): table generation always yields a certified table

`genTableL` (Yv/Model/GenTab.lean) is the list-based model of the implementation's `GenTable`:
per state the candidate actions (transitions first, then the reductions of the complete items,
lookahead by lookahead), folded pairwise per symbol by a resolution function `res`, the winner
written into the cell.

* `genTable_certT`: for every grammar, automaton and lookahead table passing the decidable checks
  `gramWF`, `certA`, `gotosOK` (goto lists without repeated symbols, on symbols `≥ 2`), `laOK`
  (lookaheads of complete items are terminals; `start' → S ·` only has `$`), and for ANY pairwise
  resolution that returns one of its arguments or an error marker, the generated table passes
  `certT`.  Hence (`C01_generator`, `C06_generator`) the driver on it is sound and never crashes.
* `genTable_certC`: when no cell has two candidates (`maxCandsL ≤ 1`, the LALR(1) case) the
  generated table also passes `certC`; hence (`C02_generator`) the driver accepts every sentence.

* `laL_checks`, `buildL_checks`: `laL`'s table always satisfies `laOK`/`laTerm` (+ the closedness
  checks), `buildL`'s automaton always satisfies `certA`/`gotosOK` (via `C09_gen`); hence the
  end-to-end corollaries `pipeline_certT`, `C01_pipeline`, `C06_pipeline` (all grammars) and
  `C02_pipeline` (LALR(1) grammars: the driver accepts EXACTLY the language).
* `C01_pairWinner_sel`: the implementation's resolution (mirror `Core.pairWinner`; it IS the Go text
  translated in `Yv/Gen/Resolve.lean`: `C01_pairWinner_is_go` in `Props/C04gen.lean`) is an admissible
  `res`.
* `genRowL_eq_core`, `genTableCore_eq`, `maxCandsL_eq_core`: the list-based generator computes
  exactly the rows of the array model `Core.genRow` (for all inputs), so the harness's comparison of
  `Core.genRow` with the implementation's rows also validates `genTableL`.

The side conditions `gotosOK` / `laOK` are necessary (counterexamples at the end). -/
namespace Y.Props
open Y Y.D Y.GT
open Core (Action)

/-- **The generated table is certified.** -/
theorem genTable_certT (res : Action → Action → Action) (hR : ResSel res)
    (G : Grammar) (nS : Nat) (P : PrecData) (A : Auto) (t : LATab)
    (hG : gramWF G nS = true) (hA : certA G A = true) (hE : gotosOK nS A = true)
    (hL : laOK G A t = true) :
    certT G nS A (genTableL res G nS P A t) = true := by
  have hG' := gramWF_ok hG
  have hA' := certA_ok hA
  refine certT_intro (genTable_length res G nS P A t) (genTable_row res G nS P A t) ?_ ?_
  · intro q a hq ha
    exact ⟨_, cell_genTable res G nS P A t hq ha, genCell_chk hR hG' hA' hE hL hq a⟩
  · intro q hq e he hX
    rw [cell_genTable res G nS P A t hq ((gotosOK_iff.mp hE q hq).2 e he).2, genCell_nt hA' hE hL hq he hX]

/-- **Completeness side.** Without conflicts (at most one candidate per cell) every lookahead of a
    complete item holds its reduction and every terminal after a dot holds its shift. -/
theorem genTable_certC (res : Action → Action → Action)
    (G : Grammar) (nS : Nat) (P : PrecData) (A : Auto) (t : LATab)
    (hG : gramWF G nS = true) (hA : certA G A = true) (hL : laOK G A t = true)
    (hM : maxCandsL G nS P A t ≤ 1) :
    certC G A t (genTableL res G nS P A t) = true := by
  have hG' := gramWF_ok hG
  have hA' := certA_ok hA
  unfold certC
  simp only [List.all_eq_true, List.mem_range]
  intro q hq it hit
  obtain ⟨hr, hd⟩ := hA'.item_ok q hq it hit
  obtain ⟨rl, hrl⟩ := rule_of_lt hr
  have hrhs : G.rhsOf it.r = rl.rhs := rhsOf_of_get hrl
  split
  · rename_i hnone
    have hd' : it.d = (G.rhsOf it.r).length := by
      have := List.getElem?_eq_none_iff.mp hnone
      omega
    simp only [List.all_eq_true, beq_iff_eq]
    intro a ha
    have hT := (laOK_iff.mp hL q hq it hit hd' a ha).1
    have haS : a < nS := Nat.lt_of_le_of_lt (isT_pos hT).2 hG'.nTS
    have hc : (a, P.redAct it.r) ∈ candsL G P A t q :=
      mem_candsL.mpr (Or.inr ⟨it, hit, rl, hrl, by rw [← hrhs]; exact hd', ha, rfl⟩)
    rw [cell_genTable res G nS P A t hq haS, genCell_unique hM hq haS hc, decode_red]
  · rename_i X hX
    split
    · obtain ⟨p, hg, _⟩ := hA'.gotoC q hq it hit X hX
      obtain ⟨_, hp0, _⟩ := hA'.edge q hq X p hg
      have hXS : X < nS := by
        rw [hrhs] at hX
        exact (hG'.rhs_ok it.r rl hrl X (List.mem_of_getElem? hX)).2
      have hc : (X, P.shiftAct X p) ∈ candsL G P A t q :=
        mem_candsL.mpr (Or.inl ⟨(X, p), Auto.goto_mem hg, rfl, rfl⟩)
      simp only [hg]
      rw [cell_genTable res G nS P A t hq hXS, genCell_unique hM hq hXS hc, decode_shift P A.n X p hp0]
      simp
    · rfl

/-- **C01 for the generator**: the driver on the generated table is sound, for every grammar,
    automaton and lookahead table passing the decidable checks, whatever the resolution does. -/
theorem C01_generator {V : Type} (res : Action → Action → Action) (hR : ResSel res)
    (G : Grammar) (nS : Nat) (P : PrecData) (A : Auto) (t : LATab)
    (sem : Nat → List V → V) (eofVal bv : V)
    (hG : gramWF G nS = true) (hA : certA G A = true) (hE : gotosOK nS A = true)
    (hL : laOK G A t = true)
    (w : List (Sym × V)) (hw : ∀ x ∈ w, x.1 ≤ G.nT ∧ x.1 ≠ 1)
    (fuel : Nat) (v : V) (c' : D.Cfg V)
    (hrun : run (dparams G (genTableL res G nS P A t) A.n sem eofVal) fuel (init bv w) = .accept v c') :
    ∃ rl0, G.rules[0]? = some rl0 ∧ rl0.lhs = 0 ∧
      RmDer G rl0.rhs c'.reds (w.map Prod.fst) ∧ c'.rest = [] ∧ c'.req = w.length + 1 :=
  C01_sound G nS A _ sem eofVal bv hG hA (genTable_certT res hR G nS P A t hG hA hE hL) w hw fuel v c' hrun

/-- **C06 for the generator**: on the generated table the driver never crashes and reports syntax
    errors exactly at the offending token. -/
theorem C06_generator {V : Type} (res : Action → Action → Action) (hR : ResSel res)
    (G : Grammar) (nS : Nat) (P : PrecData) (A : Auto) (t : LATab)
    (sem : Nat → List V → V) (eofVal bv : V)
    (hG : gramWF G nS = true) (hA : certA G A = true) (hE : gotosOK nS A = true)
    (hL : laOK G A t = true)
    (w : List (Sym × V)) (hw : ∀ x ∈ w, x.1 ≤ G.nT ∧ x.1 ≠ 1) (fuel : Nat) :
    run (dparams G (genTableL res G nS P A t) A.n sem eofVal) fuel (init bv w) ≠ .crash ∧
    ∀ c', run (dparams G (genTableL res G nS P A t) A.n sem eofVal) fuel (init bv w) = .syntaxError c' →
      c'.req + c'.rest.length = w.length + 1 :=
  C06_safe G nS A _ sem eofVal bv hG hA (genTable_certT res hR G nS P A t hG hA hE hL) w hw fuel

/-- **C02 for the generator**: when no cell has two candidates, the driver on the generated table
    accepts every sentence (and, by C01, performs a rightmost derivation of it). -/
theorem C02_generator {V : Type} (res : Action → Action → Action) (hR : ResSel res)
    (G : Grammar) (nS : Nat) (P : PrecData) (A : Auto) (S : Sets) (t : LATab)
    (sem : Nat → List V → V) (eofVal bv : V)
    (hG : gramWF G nS = true) (hA : certA G A = true) (hE : gotosOK nS A = true)
    (hL : laOK G A t = true) (hM : maxCandsL G nS P A t ≤ 1)
    (hS : setsClosed G S = true) (hLC : laClosed G S (toLAData A t) = true)
    (hLT : laTerm G A t = true)
    (S₀ : Sym) (h0 : G.rules[0]? = some ⟨0, [S₀]⟩)
    (w : List (Sym × V)) (hw : GenL G [S₀] (w.map Prod.fst)) (hwT : ∀ x ∈ w, x.1 ≤ G.nT ∧ x.1 ≠ 1) :
    ∃ fuel v c', run (dparams G (genTableL res G nS P A t) A.n sem eofVal) fuel (init bv w) = .accept v c' ∧
      RmDer G [S₀] c'.reds (w.map Prod.fst) ∧ c'.rest = [] ∧ c'.req = w.length + 1 :=
  C02_complete_sound G nS A _ S t sem eofVal bv hG hA (genTable_certT res hR G nS P A t hG hA hE hL)
    hS hLC (genTable_certC res G nS P A t hG hA hL hM) hLT S₀ h0 w hw hwT

/-! ## the implementation's resolution; agreement with the array model -/

/-- `Core.pairWinner` (the mirror of `ResolveConflict` / `UseDefaultResolveConflict`) returns one of
    its two arguments or the `%nonassoc` error marker, so all theorems above apply to it -/
theorem C01_pairWinner_sel : ResSel Core.pairWinner := pairWinner_sel

/-- the verified list-based generator computes exactly the rows of the array model `Core.genRow`
    (which the harness compares with the implementation's rows) — for all inputs -/
theorem genRowL_eq_core (g : Core.Gram) (a : Core.Auto) (t : Core.LATab) (q : Nat) :
    genRowCore g a t q = (Core.genRow g a t q).toList := GT.genRowL_eq_core g a t q

theorem genTableCore_eq (g : Core.Gram) (a : Core.Auto) (t : Core.LATab) :
    genTableCore g a t = (List.range a.states.size).map fun q => (Core.genRow g a t q).toList := by
  rw [genTableCore, genTableL, autoOfCore_n]
  exact List.map_congr_left fun q _ => GT.genRowL_eq_core g a t q

/-- … and the same LALR(1) test as `Core.maxCands` -/
theorem maxCandsL_eq_core (g : Core.Gram) (a : Core.Auto) (t : Core.LATab) :
    maxCandsL (gramOfCore g) g.nSyms (precOfCore g) (autoOfCore a) (laOfCore t) =
      Core.maxCands g a t := by
  unfold maxCandsL Core.maxCands candsOn
  simp only [cands_eq_core, autoOfCore_n, List.length_map]

/-! ## with the verified lookahead oracle `laL` -/

/-- the table returned by `laL` satisfies the side conditions on lookaheads (no productivity
    assumption: by an invariant of the iteration) -/
theorem laL_checks (G : Grammar) (nS : Nat) (A : Auto) (t : LATab) (hG : gramWF G nS = true)
    (hLa : laL G nS A = some t) :
    laOK G A t = true ∧ laTerm G A t = true ∧
      ∃ S, setsClosed G S = true ∧ laClosed G S (toLAData A t) = true := by
  obtain ⟨S, hS, _, hc⟩ := laL_some hLa
  exact ⟨laL_laOK hG hLa, laL_laTerm hG hLa, S, (setsL_some hS).2, hc⟩

/-- **C02 for the generator with `laL`'s lookaheads**: for a grammar without LALR(1) conflicts on
    the automaton `A`, the driver on the generated table accepts exactly the sentences. -/
theorem C02_generator_laL {V : Type} (res : Action → Action → Action) (hR : ResSel res)
    (G : Grammar) (nS : Nat) (P : PrecData) (A : Auto) (t : LATab)
    (sem : Nat → List V → V) (eofVal bv : V)
    (hG : gramWF G nS = true) (hA : certA G A = true) (hE : gotosOK nS A = true)
    (hLa : laL G nS A = some t) (hM : maxCandsL G nS P A t ≤ 1)
    (S₀ : Sym) (h0 : G.rules[0]? = some ⟨0, [S₀]⟩)
    (w : List (Sym × V)) (hwT : ∀ x ∈ w, G.isT x.1 = true ∧ x.1 ≠ 1) :
    (∃ fuel v c', run (dparams G (genTableL res G nS P A t) A.n sem eofVal) fuel (init bv w) = .accept v c')
      ↔ GenL G [S₀] (w.map Prod.fst) := by
  obtain ⟨hL, hLT, S, hS, hLC⟩ := laL_checks G nS A t hG hLa
  have hw := isT_valid hwT
  constructor
  · rintro ⟨fuel, v, c', hrun⟩
    obtain ⟨rl0, hr0, _, hder, _, _⟩ :=
      C01_generator res hR G nS P A t sem eofVal bv hG hA hE hL w hw fuel v c' hrun
    rw [h0] at hr0; cases hr0
    refine hder.derives.genL ?_
    intro a ha
    obtain ⟨x, hx, rfl⟩ := List.mem_map.mp ha
    exact (hwT x hx).1
  · intro hgen
    obtain ⟨fuel, v, c', hrun, _⟩ :=
      C02_generator res hR G nS P A S t sem eofVal bv hG hA hE hL hM hS hLC hLT S₀ h0 w hgen hw
    exact ⟨fuel, v, c', hrun⟩

/-! ## end to end: `buildL` ⇒ `laL` ⇒ `genTableL` -/

/-- the automaton built by the verified worklist `buildL` passes the LR(0) certificate and the side
    condition on goto lists, for every well-formed grammar -/
theorem buildL_checks (G : Grammar) (nS : Nat) (A : Auto) (hG : gramWF G nS = true)
    (hB : buildL G = some A) : certA G A = true ∧ gotosOK nS A = true :=
  ⟨certA_of_canon hG (C09_gen G A hB), gotosOK_of_canon hG (C09_gen G A hB)⟩

/-- the whole verified pipeline always produces a certified table -/
theorem pipeline_certT (res : Action → Action → Action) (hR : ResSel res)
    (G : Grammar) (nS : Nat) (P : PrecData) (A : Auto) (t : LATab)
    (hG : gramWF G nS = true) (hB : buildL G = some A) (hLa : laL G nS A = some t) :
    certA G A = true ∧ certT G nS A (genTableL res G nS P A t) = true :=
  have h := buildL_checks G nS A hG hB
  ⟨h.1, genTable_certT res hR G nS P A t hG h.1 h.2 (laL_laOK hG hLa)⟩

/-- **C01, end to end**: for every well-formed grammar for which the generators return, the driver
    on the generated table only accepts what it has derived — whatever the resolution does. -/
theorem C01_pipeline {V : Type} (res : Action → Action → Action) (hR : ResSel res)
    (G : Grammar) (nS : Nat) (P : PrecData) (A : Auto) (t : LATab)
    (sem : Nat → List V → V) (eofVal bv : V)
    (hG : gramWF G nS = true) (hB : buildL G = some A) (hLa : laL G nS A = some t)
    (w : List (Sym × V)) (hw : ∀ x ∈ w, x.1 ≤ G.nT ∧ x.1 ≠ 1)
    (fuel : Nat) (v : V) (c' : D.Cfg V)
    (hrun : run (dparams G (genTableL res G nS P A t) A.n sem eofVal) fuel (init bv w) = .accept v c') :
    ∃ rl0, G.rules[0]? = some rl0 ∧ rl0.lhs = 0 ∧
      RmDer G rl0.rhs c'.reds (w.map Prod.fst) ∧ c'.rest = [] ∧ c'.req = w.length + 1 :=
  have h := buildL_checks G nS A hG hB
  C01_generator res hR G nS P A t sem eofVal bv hG h.1 h.2 (laL_laOK hG hLa) w hw fuel v c' hrun

/-- **C06, end to end**: no crash, syntax errors reported at the offending token. -/
theorem C06_pipeline {V : Type} (res : Action → Action → Action) (hR : ResSel res)
    (G : Grammar) (nS : Nat) (P : PrecData) (A : Auto) (t : LATab)
    (sem : Nat → List V → V) (eofVal bv : V)
    (hG : gramWF G nS = true) (hB : buildL G = some A) (hLa : laL G nS A = some t)
    (w : List (Sym × V)) (hw : ∀ x ∈ w, x.1 ≤ G.nT ∧ x.1 ≠ 1) (fuel : Nat) :
    run (dparams G (genTableL res G nS P A t) A.n sem eofVal) fuel (init bv w) ≠ .crash ∧
    ∀ c', run (dparams G (genTableL res G nS P A t) A.n sem eofVal) fuel (init bv w) = .syntaxError c' →
      c'.req + c'.rest.length = w.length + 1 :=
  have h := buildL_checks G nS A hG hB
  C06_generator res hR G nS P A t sem eofVal bv hG h.1 h.2 (laL_laOK hG hLa) w hw fuel

/-- **C02, end to end**: for every LALR(1) grammar (no cell with two candidates), `buildL`'s
    automaton + `laL`'s lookaheads + `genTableL`'s table accept exactly the language. -/
theorem C02_pipeline {V : Type} (res : Action → Action → Action) (hR : ResSel res)
    (G : Grammar) (nS : Nat) (P : PrecData) (A : Auto) (t : LATab)
    (sem : Nat → List V → V) (eofVal bv : V)
    (hG : gramWF G nS = true) (hB : buildL G = some A) (hLa : laL G nS A = some t)
    (hM : maxCandsL G nS P A t ≤ 1)
    (S₀ : Sym) (h0 : G.rules[0]? = some ⟨0, [S₀]⟩)
    (w : List (Sym × V)) (hwT : ∀ x ∈ w, G.isT x.1 = true ∧ x.1 ≠ 1) :
    (∃ fuel v c', run (dparams G (genTableL res G nS P A t) A.n sem eofVal) fuel (init bv w) = .accept v c')
      ↔ GenL G [S₀] (w.map Prod.fst) :=
  have h := buildL_checks G nS A hG hB
  C02_generator_laL res hR G nS P A t sem eofVal bv hG h.1 h.2 hLa hM S₀ h0 w hwT

/-! ## Non-vacuity

* the grammar `S' → S ; S → a S | b` of C01/C02: the generator returns exactly the table `exT`,
  from the data `exA`/`exLA` and through the whole pipeline;
* the LALR(1)-but-not-SLR(1) grammar `laG` of C03: no conflict, the pipeline's table;
* `E → E + E | E * E | id` with `%left '+'`, `%left '*'`: two candidates in some cells, resolved by
  precedence (state 5 = `E → E + E ·`: reduce on `+`, shift on `*`; state 6 = `E → E * E ·`: reduce);
  without precedence data the default (shift) is taken;
* `E → E < E | id` with `%nonassoc '<'`: the cell of state 4 on `<` is the error code. -/

def noPrec : PrecData := ⟨[], [], []⟩

/-- what an evaluation of the whole pipeline says about its stages -/
theorem pipeline_of_eval {G : Grammar} {nS : Nat} {β : Type} {f : Auto → LATab → β} {y : β}
    (h : ((buildL G).bind fun A => (laL G nS A).map (f A)) = some y) :
    ∃ A t, buildL G = some A ∧ laL G nS A = some t ∧ f A t = y := by
  obtain ⟨A, hB, h⟩ := Option.bind_eq_some_iff.mp h
  obtain ⟨t, hL, h⟩ := Option.map_eq_some_iff.mp h
  exact ⟨A, t, hB, hL, h⟩

/-- an evaluated table and conflict count, in the form of the hypotheses of the pipeline theorems -/
theorem table_of_eval {G : Grammar} {nS : Nat} {P : PrecData} {T : Dense} {k : Nat}
    (h : ((buildL G).bind fun A => (laL G nS A).map fun t =>
      (genTableL Core.pairWinner G nS P A t, maxCandsL G nS P A t)) = some (T, k)) :
    ∃ A t, buildL G = some A ∧ laL G nS A = some t ∧ genTableL Core.pairWinner G nS P A t = T ∧
      maxCandsL G nS P A t = k ∧ A.n = T.length := by
  obtain ⟨A, t, hB, hL, h⟩ := pipeline_of_eval h
  obtain ⟨hT, hk⟩ := Prod.mk.inj h
  exact ⟨A, t, hB, hL, hT, hk, by rw [← hT, genTable_length]⟩

/-- … and a part `π` of what was evaluated is the evaluation of that part -/
theorem eval_map {G : Grammar} {nS : Nat} {β γ : Type} {f : Auto → LATab → β} (π : β → γ) {y : β}
    (h : ((buildL G).bind fun A => (laL G nS A).map (f A)) = some y) :
    ((buildL G).bind fun A => (laL G nS A).map fun t => π (f A t)) = some (π y) := by
  obtain ⟨A, t, hB, hL, rfl⟩ := pipeline_of_eval h
  rw [hB, Option.bind_some, hL]
  rfl

example : genTableL Core.pairWinner exG 5 noPrec exA exLA = exT := by decide +kernel

example : gotosOK 5 exA = true ∧ laOK exG exA exLA = true ∧ maxCandsL exG 5 noPrec exA exLA = 1 := by
  decide +kernel

/-- the pipeline on `exG`, evaluated once: its table is `exT`, no cell has two candidates -/
theorem exG_eval : ((buildL exG).bind fun A => (laL exG 5 A).map fun t =>
    (genTableL Core.pairWinner exG 5 noPrec A t, maxCandsL exG 5 noPrec A t)) = some (exT, 1) := by
  decide +kernel

example : ((buildL exG).bind fun A => (laL exG 5 A).map fun t =>
    genTableL Core.pairWinner exG 5 noPrec A t) = some exT := by
  have h := eval_map Prod.fst exG_eval
  exact h

/-- the table of the LALR(1)-but-not-SLR(1) grammar `laG` of C03 (terminals `=` 2, `*` 3, `id` 4;
    8 symbols, 10 states) -/
def laT : Dense :=
  [[110, 110, 110, 4, 5, 1, 2, 3], [110, 210, 110, 110, 110, 110, 110, 110],
   [110, -5, 6, 110, 110, 110, 110, 110], [110, -2, 110, 110, 110, 110, 110, 110],
   [110, 110, 110, 4, 5, 110, 8, 7], [110, -4, -4, 110, 110, 110, 110, 110],
   [110, 110, 110, 4, 5, 110, 8, 9], [110, -3, -3, 110, 110, 110, 110, 110],
   [110, -5, -5, 110, 110, 110, 110, 110], [110, -1, 110, 110, 110, 110, 110, 110]]

theorem laG_eval : ((buildL laG).bind fun A => (laL laG 8 A).map fun t =>
    (genTableL Core.pairWinner laG 8 noPrec A t, maxCandsL laG 8 noPrec A t)) = some (laT, 1) := by
  decide +kernel

set_option maxRecDepth 4000 in
example : ((buildL laG).bind fun A => (laL laG 8 A).map fun t =>
    (genTableL Core.pairWinner laG 8 noPrec A t, maxCandsL laG 8 noPrec A t)) =
  some ([[110, 110, 110, 4, 5, 1, 2, 3], [110, 210, 110, 110, 110, 110, 110, 110],
         [110, -5, 6, 110, 110, 110, 110, 110], [110, -2, 110, 110, 110, 110, 110, 110],
         [110, 110, 110, 4, 5, 110, 8, 7], [110, -4, -4, 110, 110, 110, 110, 110],
         [110, 110, 110, 4, 5, 110, 8, 9], [110, -3, -3, 110, 110, 110, 110, 110],
         [110, -5, -5, 110, 110, 110, 110, 110], [110, -1, 110, 110, 110, 110, 110, 110]], 1) :=
  laG_eval

def exprG : Grammar := { nT := 4, rules := [⟨0, [5]⟩, ⟨5, [5, 2, 5]⟩, ⟨5, [5, 3, 5]⟩, ⟨5, [4]⟩] }
def exprP : PrecData := ⟨[-1, -1, 1, 2, -1, -1], [2, 2, 0, 0, 2, 2], [-1, 2, 3, -1]⟩

set_option maxRecDepth 4000 in
example : ((buildL exprG).bind fun A => (laL exprG 6 A).map fun t =>
    (genTableL Core.pairWinner exprG 6 exprP A t, maxCandsL exprG 6 exprP A t)) =
  some ([[107, 107, 107, 107, 2, 1], [107, 207, 3, 4, 107, 107], [107, -3, -3, -3, 107, 107],
         [107, 107, 107, 107, 2, 5], [107, 107, 107, 107, 2, 6], [107, -1, -1, 4, 107, 107],
         [107, -2, -2, -2, 107, 107]], 2) := by decide +kernel

example : ((buildL exprG).bind fun A => (laL exprG 6 A).map fun t =>
    genTableL Core.pairWinner exprG 6 noPrec A t) =
  some [[107, 107, 107, 107, 2, 1], [107, 207, 3, 4, 107, 107], [107, -3, -3, -3, 107, 107],
        [107, 107, 107, 107, 2, 5], [107, 107, 107, 107, 2, 6], [107, -1, 3, 4, 107, 107],
        [107, -2, 3, 4, 107, 107]] := by decide +kernel

def cmpG : Grammar := { nT := 3, rules := [⟨0, [4]⟩, ⟨4, [4, 2, 4]⟩, ⟨4, [3]⟩] }
def cmpP : PrecData := ⟨[-1, -1, 1, -1, -1], [2, 2, 2, 2, 2], [-1, 2, -1]⟩

example : ((buildL cmpG).bind fun A => (laL cmpG 5 A).map fun t =>
    genTableL Core.pairWinner cmpG 5 cmpP A t) =
  some [[105, 105, 105, 2, 1], [105, 205, 3, 105, 105], [105, -2, -2, 105, 105],
        [105, 105, 105, 2, 4], [105, -1, 105, 105, 105]] := by decide +kernel

example : gramWF exprG 6 = true ∧ gramWF cmpG 5 = true ∧ gramWF laG 8 = true := by decide

/-! ## the side conditions are needed

`certA` does not constrain an edge into a state without kernel items, nor repeated symbols in a
goto list; `genTable_certT` is false without `gotosOK`, and without `laOK`: -/

/-- `exA` plus an empty state 5 entered from state 0 on the end marker: passes `certA`, but the
    generated table shifts `$` -/
def badA1 : Auto := { items := exA.items ++ [[]], gotos := [[(4,1), (2,2), (3,3), (1,5)], [], [(2,2), (4,4), (3,3)], [], [], []] }

example : certA exG badA1 = true ∧ laOK exG badA1 exLA = true ∧ gotosOK 5 badA1 = false ∧
    certT exG 5 badA1 (genTableL Core.pairWinner exG 5 noPrec badA1 exLA) = false := by decide +kernel

/-- `exA` plus a copy (state 5) of state 3 entered from state 0 by a second edge on `b`: passes
    `certA`; a resolution that prefers its second argument writes the second edge's target, which is
    not `A.goto` -/
def badA2 : Auto := { items := exA.items ++ [[⟨2,1⟩]], gotos := [[(4,1), (2,2), (3,3), (3,5)], [], [(2,2), (4,4), (3,3)], [], [], []] }
def badLA2 : LATab := { tab := exLA.tab ++ [[(⟨2,1⟩, [1])]] }

example : ResSel (fun _ b => b) := fun _ _ => Or.inr (Or.inl rfl)

example : certA exG badA2 = true ∧ laOK exG badA2 badLA2 = true ∧ gotosOK 5 badA2 = false ∧
    certT exG 5 badA2 (genTableL (fun _ b => b) exG 5 noPrec badA2 badLA2) = false := by decide +kernel

/-- a lookahead table that gives `start' → S ·` the lookahead `a`: accept would be written in
    column `a` -/
def badLA3 : LATab := { tab := [[], [(⟨0,1⟩, [1, 2])], [], [(⟨2,1⟩, [1])], [(⟨1,2⟩, [1])]] }

example : gotosOK 5 exA = true ∧ laOK exG exA badLA3 = false ∧
    certT exG 5 exA (genTableL Core.pairWinner exG 5 noPrec exA badLA3) = false := by decide +kernel

end Y.Props

#print axioms Y.Props.genTable_certT
#print axioms Y.Props.genTable_certC
#print axioms Y.Props.C01_generator
#print axioms Y.Props.C06_generator
#print axioms Y.Props.C02_generator
#print axioms Y.Props.C02_generator_laL
#print axioms Y.Props.pipeline_certT
#print axioms Y.Props.C01_pipeline
#print axioms Y.Props.C06_pipeline
#print axioms Y.Props.C02_pipeline
#print axioms Y.Props.genRowL_eq_core
#print axioms Y.Props.maxCandsL_eq_core
#print axioms Y.Props.C01_pairWinner_sel
