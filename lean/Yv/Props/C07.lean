import Yv.Proofs.DValue
import Yv.Props.C01
/-! # C07 — the returned value is the bottom-up evaluation of the semantic actions

`Vals G sem γ u vs rs` (in `Yv/Proofs/DValue.lean`): the symbol sequence `γ` derives the token/value
list `u`, the values of the `γ`-symbols are `vs` — a token's value is the one the lexer delivered, a
nonterminal's value is `sem r` applied to the values of its children in order (what `$1..$n` / `$$`
mean) — and `rs` is the rule sequence of a bottom-up left-to-right parse.

`C07_value`: on **every** table passing the certificates, if the driver accepts input `w` with
value `v`, then `v` is the value of the start symbol over a parse tree of exactly `w` whose
reductions, in order, are the ones the driver performed.

`C07_slots`: in every reduce step of a run, the list handed to `sem r` is the list of the values of
the subtrees for the right-hand-side symbols of this reduction (oldest first), and the new top entry
carries `sem r` of that list. -/
namespace Y.Props
open Y Y.D

theorem C07_value {V : Type} (G : Grammar) (nS : Nat) (A : Auto) (T : Dense)
    (sem : Nat → List V → V) (eofVal bv : V)
    (hG : gramWF G nS = true) (hA : certA G A = true) (hT : certT G nS A T = true)
    (w : List (Sym × V)) (hw : ∀ t ∈ w, t.1 ≤ G.nT ∧ t.1 ≠ 1)
    (fuel : Nat) (v : V) (c' : D.Cfg V)
    (hrun : run (dparams G T A.n sem eofVal) fuel (init bv w) = .accept v c') :
    ∃ rl0, G.rules[0]? = some rl0 ∧ Vals G sem rl0.rhs w [v] c'.reds.reverse := by
  have hG' := gramWF_ok hG
  have hA' := certA_ok hA
  obtain ⟨hreach, hacc⟩ := (run_end _ fuel _).1 v c' hrun
  have hi := reach_invV sem eofVal hG' hA' (certT_ok hT) (init_invV (A := A) sem bv w hw) hreach
  obtain ⟨shifted, hsh, hvals⟩ := hi.val
  cases hacc ▸ step_amove sem eofVal hG' hA' (certT_ok hT) hi.inv with
  | acc hst hrest hit =>
    obtain ⟨S₀, h0, hsy⟩ := acc_syms hG' hA' hi.inv.path (by rw [hst]; exact hit)
    rw [hrest, List.append_nil] at hsh
    rw [hsy, hst, svals_single (hst ▸ hsy), ← hsh] at hvals
    exact ⟨_, h0, hvals⟩

/-- In every reduce step of a run (a `next` step that records a reduction `r`), the old stack splits
    at `|rhs|` entries from the top: the forest of the consumed input splits into a forest for the
    symbols below the handle and a forest for `rhs` whose root values are exactly the list handed to
    `sem r` — the values of the `|rhs|` topmost entries, oldest first; the pushed entry has symbol
    `lhs` and value `sem r` of that list. -/
theorem C07_slots {V : Type} (G : Grammar) (nS : Nat) (A : Auto) (T : Dense)
    (sem : Nat → List V → V) (eofVal bv : V)
    (hG : gramWF G nS = true) (hA : certA G A = true) (hT : certT G nS A T = true)
    (w : List (Sym × V)) (hw : ∀ t ∈ w, t.1 ≤ G.nT ∧ t.1 ≠ 1)
    (c c' : D.Cfg V) (hreach : Reach (dparams G T A.n sem eofVal) (init bv w) c)
    (hs : D.step (dparams G T A.n sem eofVal) c = .next c')
    (r : Nat) (hr : c'.reds = r :: c.reds) :
    ∃ rl e', G.rules[r]? = some rl ∧
      c'.stack = e' :: c.stack.drop rl.rhs.length ∧ e'.sym = rl.lhs ∧
      e'.val = sem r ((c.stack.take rl.rhs.length).reverse.map Entry.val) ∧
      ssyms c.stack = ssyms (c.stack.drop rl.rhs.length) ++ rl.rhs ∧
      svals c.stack = svals (c.stack.drop rl.rhs.length) ++
        ((c.stack.take rl.rhs.length).reverse.map Entry.val) ∧
      ∃ u1 u2 rs1 rs2, w = u1 ++ u2 ++ c.rest ∧ c.reds.reverse = rs1 ++ rs2 ∧
        Vals G sem (ssyms (c.stack.drop rl.rhs.length)) u1 (svals (c.stack.drop rl.rhs.length)) rs1 ∧
        Vals G sem rl.rhs u2 ((c.stack.take rl.rhs.length).reverse.map Entry.val) rs2 := by
  have hA' := certA_ok hA
  have hi : InvV G A sem w c :=
    reach_invV sem eofVal (gramWF_ok hG) hA' (certT_ok hT) (init_invV (A := A) sem bv w hw) hreach
  obtain ⟨shifted, hsh, hv⟩ := hi.val
  cases hs ▸ step_amove sem eofVal (gramWF_ok hG) hA' (certT_ok hT) hi.inv with
  | shift => exact absurd hr.symm (List.cons_ne_self _ _)
  | @reduce r' rl p _ hrl _ hit _ _ =>
    cases List.head_eq_of_cons_eq hr
    obtain ⟨hsy, hsv, u1, u2, rs1, rs2, hu, hrs, h1, h2⟩ := reduce_vals hA' hi.inv.path hrl hit hv
    exact ⟨rl, _, hrl, rfl, rfl, rfl, hsy, hsv, u1, u2, rs1, rs2, by rw [hsh, hu], hrs, h1, h2⟩

/-! ## Non-vacuity: the grammar/automaton/table of `C01` with `V := Nat`; token values are numbers
    and `sem r vs = (sum of vs) + r`.  Input `a(10) a(20) b(5)`: `S→b` gives `5+2 = 7`,
    `S→aS` gives `20+7+1 = 28`, `S→aS` gives `10+28+1 = 39`. -/

def exSem : Nat → List Nat → Nat := fun r vs => vs.sum + r

example : ∃ c', run (dparams exG exT exA.n exSem 0) 20 (init 0 [(2, 10), (2, 20), (3, 5)])
    = .accept 39 c' ∧ c'.reds.reverse = [2, 1, 1] := ⟨_, rfl, rfl⟩

/-- the theorem applied to this run: 39 is the value of the parse tree with rule sequence 2,1,1 -/
example : ∃ rl0, exG.rules[0]? = some rl0 ∧
    Vals exG exSem rl0.rhs [(2, 10), (2, 20), (3, 5)] [39] [2, 1, 1] :=
  C07_value exG 5 exA exT exSem 0 0 exG_wf exA_ok exT_ok [(2, 10), (2, 20), (3, 5)] (by decide) 20 39 _ rfl

end Y.Props
