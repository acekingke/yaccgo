import Yv.Model.GoSem
import Yv.Gen.Driver
import Yv.Model.ArrDrive
import Yv.Proofs.SemAttr
/-! # C08b — the driver TEXT of both Go templates is the hand model `Y.AD.astep`

`Yv/Gen/Driver.lean` is regenerated on every run from the template strings in
`Builder/GoCodeTemplate.go` and `Builder/GoObjectTemplate.go`: the bodies of `PushStateSym`,
`PopStateSym`, `ParserInit` and `Parser` as syntax trees (`Yv/Model/GoAst.lean`).  Their meaning is
the interpreter of `Yv/Model/GoSem.lean`.  Proved here, for every parameter set `P` (table lookup,
action constants, rule data, semantic actions) and every configuration, with no invariant assumed:
the translated helper bodies are `AStack.push`, `AStack.pop` (for `n ≤ sp`; Go's `int` pointer goes
negative otherwise), `initGlobal`, `initCtx`; one iteration of the translated `for` loop of `Parser`
is `astep P c`; the whole translated `Parser` is `arun P fuel (ainit s w)`, `fuel` bounding the
number of iterations.

An edit of the driver text in either template changes `Yv/Gen/Driver.lean`; then these proofs are
re-checked and fail unless the edit preserves the meaning. -/
namespace C08b
open Y Y.D Y.AD GoSem

/-! `simp` with the equations of the interpreter executes a program text on a symbolic machine state as
far as the tests are decided.  Where a statement's outcome is still undecided the statements after
it must stay untouched: written as a `match` on that outcome (as `execs` is defined) they would be
unfolded again under the binder, on a state about which nothing is known.  `thenExecs` keeps them
as data until the outcome is a constructor. -/

/-- the statements `rest` after a statement that ended in `r` -/
def thenExecs {V : Type} (P : Params V) (z : V) (X : Ext V) (f : Nat) (r : Res V) (rest : List Gen.Stmt) : Res V :=
  match r with
  | .norm m => execs P z X f m rest
  | r' => r'

section
variable {V : Type} (P : Params V) (z : V) (X : Ext V) (f : Nat) (m : M V) (v : Val V) (r : List Gen.Stmt)

theorem execs_nil : execs P z X f m [] = .norm m := by rw [execs]
theorem execs_cons (s : Gen.Stmt) : execs P z X f m (s :: r) = thenExecs P z X f (exec P z X f m s) r := by
  rw [execs]; rfl
theorem thenExecs_norm : thenExecs P z X f (.norm m) r = execs P z X f m r := rfl
theorem thenExecs_brk : thenExecs P z X f (.brk m) r = .brk m := rfl
theorem thenExecs_ret : thenExecs P z X f (.ret v m) r = .ret v m := rfl
theorem thenExecs_err : thenExecs P z X f (.err m) r = .err m := rfl
theorem thenExecs_crash : thenExecs P z X f .crash r = .crash := rfl
theorem thenExecs_outOfFuel : thenExecs P z X f .outOfFuel r = .outOfFuel := rfl

theorem extOf_push (pushFn popFn : Gen.Fn) : (extOf P z pushFn popFn).push m v = invoke P z ext0 0 pushFn [v] m := rfl
theorem extOf_pop (pushFn popFn : Gen.Fn) : (extOf P z pushFn popFn).pop m v = invoke P z ext0 0 popFn [v] m := rfl

end

attribute [go_sem] execs_nil execs_cons thenExecs_norm thenExecs_brk thenExecs_ret thenExecs_err thenExecs_crash
  thenExecs_outOfFuel exec eval evalArgs callFn reduceFunc idVal lookup setVar store ofStore ofRes binVal selStep selVal
  isStack load leave popEnv mkEntry setField getField allEnts List.zip_cons_cons List.zip_nil_right List.zip_nil_left
  List.length_cons List.length_nil List.drop_zero List.drop_succ_cons Nat.sub_self Bool.true_eq_false
  Bool.false_eq_true decide_eq_true_eq and_self true_and and_true false_and Int.natCast_eq_zero Int.ofNat_lt
  Int.ofNat_le Int.natCast_nonneg Int.toNat_natCast Int.natCast_add Int.natCast_one

/-- run the interpreter on a concrete program: `go_sem` holds its equations (`execs` through
    `execs_cons`, so that the statements after an undecided one stay data), arithmetic on the
    literals that scoping produces, and the casts `Nat → Int` pushed inwards, so that a test of the
    Go text on `int`s becomes the test of the hand model on `Nat`s; the simprocs cannot be tagged
    and are named here -/
syntax "go_simp" "[" Lean.Parser.Tactic.simpLemma,* "]" : tactic
macro_rules
  | `(tactic| go_simp [$ls,*]) => `(tactic| simp only [go_sem, Nat.reduceAdd, Nat.reduceSub, ↓reduceIte, reduceCtorEq, $ls,*])

def setStack {V : Type} (m : M V) (s : AStack V) : M V := { m with arr := s.a, sp := (s.sp : Int) }

/-! Go subtracts on `int`: the pointer becomes `sp - n`, negative when `n > sp`. -/

/-- `PushStateSym` of either template, on a machine state written out field by field: the form in
    which the interpreter meets it inside `Parser`, whatever the local variables are -/
theorem push_eq {V : Type} (P : Params V) (zeroV : V) (fuel : Nat) (a : List (Entry V)) (sp : Nat)
    (env : List (Gen.Id × Val V)) (input : List (Sym × V)) (req : Nat) (reds : List Nat) (trace : List Ev) (e : Entry V) :
    invoke P zeroV ext0 fuel Gen.pushGlobal [.obj e] ⟨a, sp, env, input, req, reds, trace⟩
      = .norm ⟨(AStack.push ⟨a, sp⟩ e).a, ((AStack.push ⟨a, sp⟩ e).sp : Int), env, input, req, reds,
          .shift e.sym e.st :: trace⟩ ∧
    invoke P zeroV ext0 fuel Gen.pushObject [.obj e] ⟨a, sp, env, input, req, reds, trace⟩
      = .norm ⟨(AStack.push ⟨a, sp⟩ e).a, ((AStack.push ⟨a, sp⟩ e).sp : Int), env, input, req, reds,
          .shift e.sym e.st :: trace⟩ := by
  simp only [Gen.pushGlobal, Gen.pushObject, AStack.push]
  by_cases h : sp ≥ a.length
  · go_simp [invoke, h]
  · go_simp [invoke, h, Nat.lt_of_not_ge h]

theorem push_global_eq {V : Type} (P : Params V) (zeroV : V) (fuel : Nat) (m : M V) (s : AStack V) (e : Entry V) :
    invoke P zeroV ext0 fuel Gen.pushGlobal [.obj e] (setStack m s)
      = .norm (setStack { m with trace := .shift e.sym e.st :: m.trace } (s.push e)) :=
  (push_eq P zeroV fuel s.a s.sp m.env m.input m.req m.reds m.trace e).1

theorem push_object_eq {V : Type} (P : Params V) (zeroV : V) (fuel : Nat) (m : M V) (s : AStack V) (e : Entry V) :
    invoke P zeroV ext0 fuel Gen.pushObject [.obj e] (setStack m s)
      = .norm (setStack { m with trace := .shift e.sym e.st :: m.trace } (s.push e)) :=
  (push_eq P zeroV fuel s.a s.sp m.env m.input m.req m.reds m.trace e).2

theorem pop_int {V : Type} (P : Params V) (zeroV : V) (fuel : Nat) (m : M V) (n : Int) :
    invoke P zeroV ext0 fuel Gen.popGlobal [.int n] m = .norm { m with sp := m.sp - n } ∧
    invoke P zeroV ext0 fuel Gen.popObject [.int n] m = .norm { m with sp := m.sp - n } := by
  simp only [Gen.popGlobal, Gen.popObject]
  go_simp [invoke]

/-- `AStack.pop` (truncated subtraction on `Nat`) is the Go text exactly when `n ≤ sp` — which the
    slice bound check `0 ≤ topIndex - n` in `ReduceFunc` establishes before `PopStateSym(n)` -/
theorem pop_global_eq {V : Type} (P : Params V) (zeroV : V) (fuel : Nat) (m : M V) (s : AStack V) (n : Nat)
    (h : n ≤ s.sp) :
    invoke P zeroV ext0 fuel Gen.popGlobal [.int n] (setStack m s) = .norm (setStack m (s.pop n)) := by
  rw [(pop_int P zeroV fuel _ n).1]
  simp only [setStack, AStack.pop, Int.natCast_sub h]

theorem pop_object_eq {V : Type} (P : Params V) (zeroV : V) (fuel : Nat) (m : M V) (s : AStack V) (n : Nat)
    (h : n ≤ s.sp) :
    invoke P zeroV ext0 fuel Gen.popObject [.int n] (setStack m s) = .norm (setStack m (s.pop n)) := by
  rw [(pop_int P zeroV fuel _ n).2]
  simp only [setStack, AStack.pop, Int.natCast_sub h]

/-- without the hypothesis the two differ: Go's pointer goes negative, the model's stops at 0 -/
theorem pop_global_neg {V : Type} (P : Params V) (zeroV : V) (fuel : Nat) (m : M V) (s : AStack V) (n : Nat)
    (h : s.sp < n) :
    invoke P zeroV ext0 fuel Gen.popGlobal [.int n] (setStack m s) ≠ .norm (setStack m (s.pop n)) := by
  rw [(pop_int P zeroV fuel _ n).1]
  simp only [setStack, AStack.pop]
  intro hc
  injection hc with hc
  injection hc with _ hsp
  omega

theorem init_global_eq {V : Type} (P : Params V) (bv : V) (fuel : Nat) (m : M V) (s : AStack V) :
    invoke P bv ext0 fuel Gen.parserInitGlobal [] (setStack m s) = .norm (setStack m (initGlobal bv)) := by
  simp only [Gen.parserInitGlobal, setStack]
  go_simp [invoke]
  rfl

/-- the object template APPENDS the bottom entry to whatever the context's array holds -/
theorem init_object_eq {V : Type} (P : Params V) (bv : V) (fuel : Nat) (m : M V) (s : AStack V) :
    invoke P bv ext0 fuel Gen.parserInitObject [] (setStack m s) = .norm (setStack m (initCtx s bv)) := by
  simp only [Gen.parserInitObject, setStack]
  go_simp [invoke]
  rfl


/-- the body of the first `for { … }` of a statement list -/
def loopOf : List Gen.Stmt → List Gen.Stmt
  | [] => []
  | .loop b :: _ => b
  | _ :: r => loopOf r

/-- the local variables of `Parser` at the head of the loop -/
def parserEnv {V : Type} (la : Sym) (v : V) : List (Gen.Id × Val V) :=
  [(.lookAhead, .int la), (.val, .val v), (.currentPos, .int 0), (.input, .str)]

/-- the machine state at the head of the loop for the configuration `c`.  The machine's `input` is
    what has not been fetched yet, while `ACfg.rest` still holds the lookahead: `input := c.rest.tail` -/
def toM {V : Type} (eofVal : V) (c : ACfg V) : M V :=
  { arr := c.stack.a, sp := (c.stack.sp : Int),
    env := parserEnv (alook eofVal c).1 (alook eofVal c).2,
    input := c.rest.tail, req := c.req, reds := c.reds, trace := c.trace }

def toRes {V : Type} (eofVal : V) (c : ACfg V) : AStepR V → Res V
  | .next c' => .norm (toM eofVal c')
  | .acc v c' => .ret (.val v) (toM eofVal c')
  | .err c' => .err (toM eofVal c')
  | .crash => .crash
  | .nil => .brk (toM eofVal c)

theorem alook_headTok {V : Type} (e : V) (c : ACfg V) : alook e c = headTok e c.rest := rfl

set_option hygiene false in
/-- A script for the step theorem of one template (`prog` its `Parser`, `pushL`/`popL` its push and pop
    lemmas): it splits all cases of `astep` first and then runs the interpreter from the top of the loop
    body in every leaf, handing it the facts that decide its tests.  It states these facts on `Int` and
    so expects a `go_simp` that leaves the casts alone. -/
macro "step_tac" prog:ident pushL:ident popL:ident : tactic => `(tactic| (
  unfold execIter astep
  simp only [$prog:ident, loopOf, toM, parserEnv]
  by_cases h0 : c.stack.sp = 0
  · have h0' : (c.stack.sp : Int) = 0 := by omega
    rw [if_pos h0]
    go_simp [h0']
    simp only [toRes, toM, parserEnv, h0']
  have h0' : ¬ ((c.stack.sp : Int) = 0) := by omega
  by_cases h1 : c.stack.sp > c.stack.a.length
  · have h1' : (c.stack.sp : Int) > (c.stack.a.length : Int) := by omega
    rw [if_neg h0, if_pos h1]
    go_simp [h0', h1']
    simp only [toRes, toM, parserEnv]
  have h1' : ¬ ((c.stack.sp : Int) > (c.stack.a.length : Int)) := by omega
  have hb : 0 ≤ (c.stack.sp : Int) - 1 ∧ (c.stack.sp : Int) - 1 < (c.stack.a.length : Int) := by omega
  have htn : ((c.stack.sp : Int) - 1).toNat = c.stack.sp - 1 := by omega
  rw [if_neg h0, if_neg h1]
  simp only [AStack.top?]
  cases htop : c.stack.a[c.stack.sp - 1]? with
  | none =>
    go_simp [h0', h1', hb, htn, htop, and_self]
    rfl
  | some top =>
    simp only []
    have hla : (0 : Int) ≤ ((alook P.eofVal c).1 : Int) := Int.natCast_nonneg _
    cases hL : P.L top.st (alook P.eofVal c).1 with
    | none =>
      go_simp [h0', h1', hb, htn, htop, and_self, hla, Int.toNat_natCast, hL]
      rfl
    | some a =>
      simp only []
      by_cases he : a = P.errC
      · rw [if_pos he]
        go_simp [h0', h1', hb, htn, htop, and_self, hla, Int.toNat_natCast, hL, he]
        simp only [toRes, toM, parserEnv]
      rw [if_neg he]
      by_cases hac : a = P.accC
      · rw [if_pos hac]
        subst hac
        go_simp [h0', h1', hb, htn, htop, and_self, hla, Int.toNat_natCast, hL, he]
        simp only [toRes, toM, parserEnv]
      rw [if_neg hac]
      by_cases hpos : 0 < a
      · rw [if_pos hpos]
        have hpos' : a > 0 := hpos
        have ha0 : 0 ≤ a := by omega
        go_simp [h0', h1', hb, htn, htop, and_self, hla, Int.toNat_natCast, hL, he, hac, hpos', ha0, $pushL:ident]
        simp only [toRes, toM, parserEnv, alook_headTok]
      rw [if_neg hpos]
      have hpos' : ¬ (a > 0) := hpos
      have hneg : ¬ (-a < 0) := by omega
      cases hr : P.rule (-a).toNat with
      | none =>
        go_simp [h0', h1', hb, htn, htop, and_self, hla, Int.toNat_natCast, hL, he, hac, hpos', hneg, hr]
        rfl
      | some ln =>
        obtain ⟨lhs, n⟩ := ln
        simp only []
        by_cases hn : n ≤ c.stack.sp - 1
        · rw [if_pos hn]
          have hsl : 0 ≤ (c.stack.sp : Int) - 1 - (n : Int) ∧ (c.stack.sp : Int) ≤ (c.stack.a.length : Int) := by omega
          have hb2 : 0 ≤ (c.stack.sp : Int) - (n : Int) - 1 ∧ (c.stack.sp : Int) - (n : Int) - 1 < (c.stack.a.length : Int) := by omega
          have htn2 : ((c.stack.sp : Int) - (n : Int) - 1).toNat = c.stack.sp - n - 1 := by omega
          simp only [AStack.pop]
          cases hu : c.stack.a[c.stack.sp - n - 1]? with
          | none =>
            go_simp [h0', h1', hb, htn, htop, and_self, hla, Int.toNat_natCast, hL, he, hac, hpos', hneg, hr, hsl,
              $popL:ident, hb2, htn2, hu]
            rfl
          | some under =>
            simp only []
            have hlhs : (0 : Int) ≤ (lhs : Int) := Int.natCast_nonneg _
            cases hg : P.L under.st lhs with
            | none =>
              go_simp [h0', h1', hb, htn, htop, and_self, hla, Int.toNat_natCast, hL, he, hac, hpos', hneg, hr, hsl,
                $popL:ident, hb2, htn2, hu, hlhs, hg]
              rfl
            | some g =>
              simp only []
              by_cases hg0 : g < 0
              · rw [if_pos hg0]
                have hg0' : ¬ (0 ≤ g) := by omega
                go_simp [h0', h1', hb, htn, htop, and_self, hla, Int.toNat_natCast, hL, he, hac, hpos', hneg, hr, hsl,
                  $popL:ident, hb2, htn2, hu, hlhs, hg, hg0']
                rfl
              · rw [if_neg hg0]
                have hg0' : 0 ≤ g := by omega
                have hna : 0 ≤ -a := by omega
                have hsub : (c.stack.sp : Int) - (n : Int) = ((c.stack.sp - n : Nat) : Int) := by omega
                go_simp [h0', h1', hb, htn, htop, and_self, hla, Int.toNat_natCast, hL, he, hac, hpos', hneg, hr, hsl,
                  $popL:ident, hb2, htn2, hu, hlhs, hg, hg0', hna]
                simp only [hsub]
                go_simp [$pushL:ident]
                have hd : ((c.stack.sp : Int) - 1 - (n : Int)).toNat = c.stack.sp - 1 - n := by omega
                simp only [toRes, toM, parserEnv, alook, AStack.dollar, hd]
        · rw [if_neg hn]
          have hsl : ¬ (0 ≤ (c.stack.sp : Int) - 1 - (n : Int) ∧ (c.stack.sp : Int) ≤ (c.stack.a.length : Int)) := by omega
          go_simp [h0', h1', hb, htn, htop, and_self, hla, Int.toNat_natCast, hL, he, hac, hpos', hneg, hr, hsl]
          rfl
))

/-- One iteration of either template's loop.  The text is walked in its own order; at each test the
    case of `astep` is split and both sides run on to the next one.  The tests of the text are on
    `int`s: `go_simp` pushes the casts inwards until they are the tests of `astep`; what is left is
    subtraction, `↑sp - 1 = ↑(sp - 1)` and the like, valid by the guards passed before. -/
theorem step_eq {V : Type} (P : Params V) (zeroV : V) (fuel : Nat) (c : ACfg V) :
    execIter P zeroV (extOf P zeroV Gen.pushGlobal Gen.popGlobal) fuel (loopOf Gen.parserGlobal.body) (toM P.eofVal c)
      = toRes P.eofVal c (astep P c) ∧
    execIter P zeroV (extOf P zeroV Gen.pushObject Gen.popObject) fuel (loopOf Gen.parserObject.body) (toM P.eofVal c)
      = toRes P.eofVal c (astep P c) := by
  unfold execIter astep
  simp only [Gen.parserGlobal, Gen.parserObject, loopOf, toM, parserEnv]
  by_cases h0 : c.stack.sp = 0
  · go_simp [h0, toRes, toM, parserEnv]
  by_cases h1 : c.stack.sp > c.stack.a.length
  · go_simp [h0, h1, toRes, toM, parserEnv]
  have hsp : (c.stack.sp : Int) - 1 = ((c.stack.sp - 1 : Nat) : Int) := by omega
  have hlt : c.stack.sp - 1 < c.stack.a.length := by omega
  go_simp [h0, h1, hsp, hlt, List.getElem?_eq_getElem hlt, AStack.top?]
  cases hL : P.L c.stack.a[c.stack.sp - 1].st (alook P.eofVal c).1 with
  | none => go_simp [toRes]
  | some a =>
    by_cases he : a = P.errC
    · go_simp [he, toRes, toM, parserEnv]
    by_cases hac : a = P.accC
    · subst hac
      go_simp [he, List.getElem?_eq_getElem hlt, toRes, toM, parserEnv]
    by_cases hpos : 0 < a
    · go_simp [he, hac, hpos, Int.le_of_lt hpos, extOf_push, push_eq, toRes, toM, parserEnv]
      rfl
    go_simp [he, hac, hpos, Int.neg_neg_iff_pos]
    cases hr : P.rule (-a).toNat with
    | none => go_simp [toRes]
    | some ln =>
      obtain ⟨lhs, n⟩ := ln
      by_cases hn : n ≤ c.stack.sp - 1
      · have hsub : (c.stack.sp : Int) - (n : Int) = ((c.stack.sp - n : Nat) : Int) := by omega
        have hsp2 : ((c.stack.sp - n : Nat) : Int) - 1 = ((c.stack.sp - n - 1 : Nat) : Int) := by omega
        have hlt2 : c.stack.sp - n - 1 < c.stack.a.length := by omega
        go_simp [hn, hsp, Int.sub_nonneg, Nat.le_of_not_gt h1, extOf_pop, pop_int, hsub, hsp2, hlt2,
          List.getElem?_eq_getElem hlt2, AStack.pop]
        cases hg : P.L c.stack.a[c.stack.sp - n - 1].st lhs with
        | none => go_simp [toRes]
        | some g =>
          by_cases hg0 : g < 0
          · go_simp [hg0, Int.not_le.mpr hg0, toRes]
          go_simp [hg0, Int.not_lt.mp hg0, Int.neg_nonneg, Int.not_lt.mp hpos, extOf_push, push_eq,
            toRes, toM, parserEnv, AStack.dollar, Int.toNat_sub]
          rfl
      · go_simp [hn, hsp, Int.sub_nonneg, toRes]

theorem step_global_eq {V : Type} (P : Params V) (zeroV : V) (fuel : Nat) (c : ACfg V) :
    execIter P zeroV (extOf P zeroV Gen.pushGlobal Gen.popGlobal) fuel (loopOf Gen.parserGlobal.body) (toM P.eofVal c)
      = toRes P.eofVal c (astep P c) :=
  (step_eq P zeroV fuel c).1

theorem step_object_eq {V : Type} (P : Params V) (zeroV : V) (fuel : Nat) (c : ACfg V) :
    execIter P zeroV (extOf P zeroV Gen.pushObject Gen.popObject) fuel (loopOf Gen.parserObject.body) (toM P.eofVal c)
      = toRes P.eofVal c (astep P c) :=
  (step_eq P zeroV fuel c).2

/-- how the loop ends, given how `arun` ends (`cl` = configuration at the head of the last iteration) -/
def loopRes {V : Type} (eofVal : V) (cl : ACfg V) : AOutcome V → Res V
  | .accept v c => .ret (.val v) (toM eofVal c)
  | .syntaxError c => .err (toM eofVal c)
  | .crash => .crash
  | .outOfFuel => .outOfFuel
  | .nil => .norm (toM eofVal cl)

theorem iterate_arun {V : Type} (P : Params V) (iter : M V → Res V)
    (hstep : ∀ c, iter (toM P.eofVal c) = toRes P.eofVal c (astep P c)) :
    ∀ (fuel : Nat) (c : ACfg V),
      iterate iter fuel (toM P.eofVal c) = loopRes P.eofVal (alast P fuel c) (arun P fuel c)
  | 0, _ => rfl
  | fuel + 1, c => by
    unfold iterate arun alast
    rw [hstep c]
    cases h : astep P c with
    | next c' => simp only [toRes]; exact iterate_arun P iter hstep fuel c'
    | acc v c' | err c' | crash | nil => rfl

theorem exec_loop {V : Type} (P : Params V) (zeroV : V) (X : Ext V) (fuel : Nat) (m : M V) (body : List Gen.Stmt) :
    exec P zeroV X fuel m (.loop body) = iterate (execIter P zeroV X fuel body) fuel m := by
  simp only [exec]; rfl

/-- the state in which `Parser` is called: nothing fetched yet (`env` = the caller's variables) -/
def callState {V : Type} (s : AStack V) (w : List (Sym × V)) (env : List (Gen.Id × Val V)) : M V :=
  { arr := s.a, sp := (s.sp : Int), env := env, input := w, req := 0, reds := [], trace := [] }

def withEnv {V : Type} (env : List (Gen.Id × Val V)) (m : M V) : M V := { m with env := env }

/-- what `Parser` returns, given how `arun` ends: `&s.ValType`, a panic with the grammar-error
    message, a run-time panic, or `nil` -/
def toOutcome {V : Type} (eofVal : V) (env : List (Gen.Id × Val V)) (cl : ACfg V) : AOutcome V → Res V
  | .accept v c => .ret (.val v) (withEnv env (toM eofVal c))
  | .syntaxError c => .err (withEnv env (toM eofVal c))
  | .crash => .crash
  | .outOfFuel => .outOfFuel
  | .nil => .ret .nil (withEnv env (toM eofVal cl))

theorem parser_eq {V : Type} (P : Params V) (zeroV : V) (fuel : Nat) (s : AStack V) (w : List (Sym × V))
    (env : List (Gen.Id × Val V)) :
    invoke P zeroV (extOf P zeroV Gen.pushGlobal Gen.popGlobal) fuel Gen.parserGlobal [.str] (callState s w env)
      = toOutcome P.eofVal env (alast P fuel (ainit s w)) (arun P fuel (ainit s w)) ∧
    invoke P zeroV (extOf P zeroV Gen.pushObject Gen.popObject) fuel Gen.parserObject [.str] (callState s w env)
      = toOutcome P.eofVal env (alast P fuel (ainit s w)) (arun P fuel (ainit s w)) := by
  have kg := iterate_arun P _ (step_global_eq P zeroV fuel) fuel (ainit s w)
  have ko := iterate_arun P _ (step_object_eq P zeroV fuel) fuel (ainit s w)
  simp only [loopOf, Gen.parserGlobal, Gen.parserObject, toM, parserEnv, alook_headTok, ainit] at kg ko
  simp only [Gen.parserGlobal, Gen.parserObject, callState]
  go_simp [invoke, ↓exec_loop, kg, ko, ainit]
  generalize alast P fuel _ = cl
  cases arun P fuel _ <;> go_simp [loopRes, toOutcome, withEnv, toM]

theorem parser_global_eq {V : Type} (P : Params V) (zeroV : V) (fuel : Nat) (s : AStack V) (w : List (Sym × V))
    (env : List (Gen.Id × Val V)) :
    invoke P zeroV (extOf P zeroV Gen.pushGlobal Gen.popGlobal) fuel Gen.parserGlobal [.str] (callState s w env)
      = toOutcome P.eofVal env (alast P fuel (ainit s w)) (arun P fuel (ainit s w)) :=
  (parser_eq P zeroV fuel s w env).1

theorem parser_object_eq {V : Type} (P : Params V) (zeroV : V) (fuel : Nat) (s : AStack V) (w : List (Sym × V))
    (env : List (Gen.Id × Val V)) :
    invoke P zeroV (extOf P zeroV Gen.pushObject Gen.popObject) fuel Gen.parserObject [.str] (callState s w env)
      = toOutcome P.eofVal env (alast P fuel (ainit s w)) (arun P fuel (ainit s w)) :=
  (parser_eq P zeroV fuel s w env).2

#print axioms push_global_eq
#print axioms push_object_eq
#print axioms pop_global_eq
#print axioms pop_object_eq
#print axioms pop_global_neg
#print axioms init_global_eq
#print axioms init_object_eq
#print axioms step_global_eq
#print axioms step_object_eq
#print axioms parser_global_eq
#print axioms parser_object_eq

end C08b
