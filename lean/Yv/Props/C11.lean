import Yv.Model.Visitor
/-! # C11 — token codes are unique

Facts about the token numbering of `Visitor.processDecl`:
explicit numbers and literal codes are kept, the identifiers left at 0 are numbered by `numberRest`
with codes above everything present before, and — on declarations satisfying the decidable
precondition `WF` — all codes of the resulting table are positive and pairwise distinct.

Before `numberRest` the passes keep the names distinct and every non-zero code declared for its name
(`Good`); that numbered entries have distinct codes then follows from `WFdist`.  From `numberRest` on,
new codes lie above `idMax`, which the table invariant `Inv` records. -/
namespace Visitor
open YParse

theorem find_some {t : Tab} {n : String} {cur : Id} (h : t.find n = some cur) :
    cur ∈ t ∧ cur.name = n := by
  unfold Tab.find at h
  exact ⟨List.mem_of_find?_eq_some h, by simpa using List.find?_some h⟩

theorem find_none {t : Tab} {n : String} (h : t.find n = none) : ∀ e ∈ t, e.name ≠ n := by
  unfold Tab.find at h
  simpa using h

theorem has_iff {t : Tab} {n : String} : t.has n = true ↔ ∃ e ∈ t, e.name = n := by
  unfold Tab.has; simp

theorem has_false {t : Tab} {n : String} (h : ¬ t.has n = true) : ∀ e ∈ t, e.name ≠ n := by
  intro e he hn; exact h (has_iff.2 ⟨e, he, hn⟩)

/-! ## the invariant of the identifier table -/

/-- two entries have different names, and equal codes only when both are still unnumbered -/
def Rel (a b : Id) : Prop := a.name ≠ b.name ∧ (a.value = b.value → a.value = 0)

/-- names pairwise distinct, non-zero codes pairwise distinct, all codes in `0 … idMax`, `idMax ≥ 2` -/
structure Inv (st : Tab × Int) : Prop where
  pw : st.1.Pairwise Rel
  le : ∀ e ∈ st.1, e.value ≤ st.2
  nn : ∀ e ∈ st.1, 0 ≤ e.value
  two : 2 ≤ st.2

theorem Inv.uniq {st : Tab × Int} (h : Inv st) {a b : Id} (ha : a ∈ st.1) (hb : b ∈ st.1)
    (hn : a.name = b.name) : a = b :=
  List.Pairwise.forall_of_forall_of_flip (R := fun a b => a.name = b.name → a = b) (fun _ _ _ => rfl)
    (h.pw.imp fun hab e => absurd e hab.1) (h.pw.imp fun hab e => absurd e.symm hab.1) ha hb hn

theorem Inv.find {st : Tab × Int} (h : Inv st) {e : Id} (he : e ∈ st.1) : st.1.find e.name = some e := by
  cases hf : st.1.find e.name with
  | none => exact absurd rfl (find_none hf e he)
  | some x =>
    obtain ⟨hx, hn⟩ := find_some hf
    rw [h.uniq hx he hn]

theorem Inv.distinct {st : Tab × Int} (h : Inv st) (hz : ∀ e ∈ st.1, e.value ≠ 0) :
    st.1.Pairwise (fun a b => a.name ≠ b.name ∧ a.value ≠ b.value) ∧
    ∀ e ∈ st.1, 0 < e.value ∧ e.value ≤ st.2 := by
  refine ⟨h.pw.imp_of_mem fun {a b} ha _ hab => ⟨hab.1, fun heq => hz a ha (hab.2 heq)⟩, fun e he => ?_⟩
  have := h.nn e he
  have := hz e he
  exact ⟨by omega, h.le e he⟩

/-- the body of the loop of `numberRest` -/
def nrStep (st : Tab × Int) (i : Id) : Tab × Int :=
  match st.1.find i.name with
  | some cur =>
    if cur.value == 0 then (st.1.upd i.name fun j => { j with value := st.2 + 1 }, st.2 + 1) else st
  | none => st

theorem numberRest_eq (tab : Tab) (m : Int) : numberRest tab m = tab.sorted.foldl nrStep (tab, m) := rfl

/-- what `nrStep` does to the entries when it numbers the name `n` -/
def setVal (n : String) (v : Int) (j : Id) : Id := if j.name == n then { j with value := v } else j

theorem setVal_name (n : String) (v : Int) (j : Id) : (setVal n v j).name = j.name := by
  unfold setVal; split <;> rfl

theorem setVal_value (n : String) (v : Int) (j : Id) :
    (setVal n v j).value = if j.name = n then v else j.value := by
  unfold setVal; by_cases h : j.name = n <;> simp [h]

theorem Inv.setVal {st : Tab × Int} (h : Inv st) (n : String) :
    Inv (st.1.map (setVal n (st.2 + 1)), st.2 + 1) := by
  have h2 := h.two
  refine ⟨List.pairwise_map.2 (h.pw.imp_of_mem fun {a b} ha hb hab => ⟨?_, ?_⟩),
    List.forall_mem_map.2 fun e he => ?_, List.forall_mem_map.2 fun e he => ?_, by dsimp only; omega⟩
  · rw [setVal_name, setVal_name]; exact hab.1
  · have := h.le a ha; have := h.le b hb
    rw [setVal_value, setVal_value]
    split <;> split
    · next na nb => exact absurd (na.trans nb.symm) hab.1
    · omega
    · omega
    · exact hab.2
  · have := h.le e he
    rw [setVal_value]; dsimp only; split <;> omega
  · have := h.nn e he
    rw [setVal_value]; split <;> omega

theorem setVal_other {n : String} (v : Int) {j : Id} (h : j.name ≠ n) : setVal n v j = j := by
  unfold setVal; simp [h]

theorem setVal_hit {n : String} (v : Int) {j : Id} (h : j.name = n) : setVal n v j = { j with value := v } := by
  unfold setVal; simp [h]

/-- how a later table extends an earlier one: numbered entries are kept, every entry is either an
    old one or an unnumbered old one that received a code above the old `idMax` -/
structure Ext (st st' : Tab × Int) : Prop where
  kept : ∀ e ∈ st.1, e.value ≠ 0 → e ∈ st'.1
  orig : ∀ e' ∈ st'.1, e' ∈ st.1 ∨
    ∃ e ∈ st.1, e.value = 0 ∧ e' = { e with value := e'.value } ∧ st.2 < e'.value
  mono : st.2 ≤ st'.2

theorem Ext.refl (st : Tab × Int) : Ext st st :=
  ⟨fun _ h _ => h, fun _ h => Or.inl h, Int.le_refl _⟩

theorem Ext.trans {a b c : Tab × Int} (h1 : Ext a b) (h2 : Ext b c) : Ext a c := by
  refine ⟨fun e he hz => h2.kept e (h1.kept e he hz) hz, fun e'' he'' => ?_, Int.le_trans h1.mono h2.mono⟩
  rcases h2.orig e'' he'' with hb | ⟨e', he', hz', heq', hlt'⟩
  · exact h1.orig e'' hb
  · have hlt := Int.lt_of_le_of_lt h1.mono hlt'
    rcases h1.orig e' he' with ha | ⟨e, he, hz, heq, _⟩
    · exact .inr ⟨e', ha, hz', heq', hlt⟩
    · exact .inr ⟨e, he, hz, by rw [heq', heq], hlt⟩

theorem nrStep_spec (st : Tab × Int) (i : Id) (h : Inv st) :
    Inv (nrStep st i) ∧ Ext st (nrStep st i) ∧
    ∀ e' ∈ (nrStep st i).1, e'.name = i.name → e'.value ≠ 0 := by
  cases hf : st.1.find i.name with
  | none =>
    rw [nrStep, hf]
    exact ⟨h, .refl _, fun e' he' hn => absurd hn (find_none hf e' he')⟩
  | some cur =>
    obtain ⟨hm, hcn⟩ := find_some hf
    have hu : ∀ e ∈ st.1, e.name = i.name → e = cur := fun e he hn => h.uniq he hm (hn.trans hcn.symm)
    by_cases hz : cur.value = 0
    · have he : nrStep st i = (st.1.map (setVal i.name (st.2 + 1)), st.2 + 1) := by
        simp only [nrStep, hf, hz, beq_self_eq_true, if_true]; rfl
      have h2 := h.two
      rw [he]
      refine ⟨h.setVal _, ⟨fun e hem hnz => ?_, List.forall_mem_map.2 fun e hem => ?_, by dsimp only; omega⟩,
        List.forall_mem_map.2 fun e hem hn => ?_⟩
      · exact List.mem_map.2 ⟨e, hem, setVal_other _ fun hn => hnz (hu e hem hn ▸ hz)⟩
      · by_cases hn : e.name = i.name
        · rw [setVal_hit _ hn]
          exact .inr ⟨e, hem, hu e hem hn ▸ hz, rfl, by dsimp only; omega⟩
        · rw [setVal_other _ hn]; exact .inl hem
      · rw [setVal_name] at hn
        rw [setVal_hit _ hn]; dsimp only; omega
    · have he : nrStep st i = st := by simp [nrStep, hf, hz]
      rw [he]
      exact ⟨h, .refl _, fun e' he' hn => hu e' he' hn ▸ hz⟩

theorem nrFold_spec (l : List Id) (st : Tab × Int) (h : Inv st) :
    Inv (l.foldl nrStep st) ∧ Ext st (l.foldl nrStep st) ∧
    ∀ e' ∈ (l.foldl nrStep st).1, (∃ i ∈ l, e'.name = i.name) → e'.value ≠ 0 := by
  induction l generalizing st with
  | nil => exact ⟨h, Ext.refl _, fun _ _ ⟨_, hi, _⟩ => by cases hi⟩
  | cons i l ih =>
    rw [List.foldl_cons]
    obtain ⟨hi1, he1, hz1⟩ := nrStep_spec st i h
    obtain ⟨hi2, he2, hz2⟩ := ih (nrStep st i) hi1
    refine ⟨hi2, he1.trans he2, ?_⟩
    intro e' he' ⟨j, hj, hn⟩
    rcases List.mem_cons.1 hj with rfl | hj
    · -- numbered in the first round: kept, or numbered again with a larger code
      rcases he2.orig e' he' with hm | ⟨e, _, _, _, hlt⟩
      · exact hz1 e' hm hn
      · have := hi1.two; omega
    · exact hz2 e' he' ⟨j, hj, hn⟩

/-- no entry stays unnumbered, since every entry's name is gone through -/
theorem numberRest_spec (t : Tab) (m : Int) (h : Inv (t, m)) :
    Inv (numberRest t m) ∧ Ext (t, m) (numberRest t m) ∧ ∀ e' ∈ (numberRest t m).1, e'.value ≠ 0 := by
  rw [numberRest_eq]
  obtain ⟨h1, h2, h3⟩ := nrFold_spec t.sorted (t, m) h
  refine ⟨h1, h2, fun e' he' => h3 e' he' ?_⟩
  rcases h2.orig e' he' with hm | ⟨e, hm, _, heq, _⟩
  · exact ⟨e', List.mem_mergeSort.2 hm, rfl⟩
  · exact ⟨e, List.mem_mergeSort.2 hm, by rw [heq]⟩

/-! ## the declared identifiers and the precondition -/

/-- all token definitions of the declaration part, in source order -/
def idents (d : Decl) : List Ident := d.tokDefs.flatten

/-- no negative explicit number -/
def WFnn (all : List Ident) : Prop := ∀ a ∈ all, 0 ≤ a.value
/-- an explicit number (or literal code) is given to one name only -/
def WFdist (all : List Ident) : Prop :=
  ∀ a ∈ all, ∀ b ∈ all, a.value ≠ 0 → a.value = b.value → a.name = b.name
/-- a name is declared with at most one non-zero number -/
def WFone (all : List Ident) : Prop :=
  ∀ a ∈ all, ∀ b ∈ all, a.value ≠ 0 → b.value ≠ 0 → a.name = b.name → a.value = b.value

/-- the precondition of C11 -/
def WF (d : Decl) : Prop := WFnn (idents d) ∧ WFdist (idents d) ∧ WFone (idents d)

instance (d : Decl) : Decidable (WF d) := by
  unfold WF WFnn WFdist WFone; infer_instance

def mxOf (st : Tab × Int) (id : Ident) : Int := if id.value > st.2 then id.value else st.2

def merge (id : Ident) (i : Id) : Id :=
  if i.name == id.name then
    { i with alias := if id.alias != "" then id.alias else i.alias,
             tag := if id.tag != "" then id.tag else i.tag,
             value := (if id.value != 0 then id.value else i.value : Int) }
  else i

/-- the body of the loop of `addTokens` -/
def atStep (st : Tab × Int) (id : Ident) : Tab × Int :=
  if st.1.has id.name then (st.1.map (merge id), mxOf st id)
  else (st.1 ++ [⟨id.name, true, id.value, id.tag, id.alias⟩], mxOf st id)

theorem addTokens_eq (tab : Tab) (mx : Int) (ids : List Ident) :
    addTokens tab mx ids = ids.foldl atStep (tab, mx) := rfl

def tokFold (d : Decl) : Tab × Int :=
  d.tokDefs.foldl (fun (st : Tab × Int) td => addTokens st.1 st.2 td) (([] : Tab), (2 : Int))

theorem tokFold_eq (d : Decl) : tokFold d = (idents d).foldl atStep (([] : Tab), (2 : Int)) := by
  unfold idents
  rw [List.foldl_flatten]
  rfl

theorem mxOf_ge (st : Tab × Int) (id : Ident) : st.2 ≤ mxOf st id ∧ id.value ≤ mxOf st id := by
  unfold mxOf; split <;> omega

theorem merge_name (id : Ident) (i : Id) : (merge id i).name = i.name := by
  unfold merge; split <;> rfl

theorem merge_value (id : Ident) (i : Id) :
    (merge id i).value = if i.name = id.name ∧ id.value ≠ 0 then id.value else i.value := by
  unfold merge
  by_cases h : i.name = id.name <;> by_cases hv : id.value = 0 <;> simp [h, hv]

/-- Invariant of the passes before `numberRest`, `pre` being the declarations processed so far: names are
    distinct; every non-zero code is declared for its name; `idMax` covers every processed declaration,
    and one that has a number is in the table with it.  That numbered entries have distinct codes is
    not maintained: it follows at the end, from `src` and `WFdist` (`Good.inv`). -/
structure Good (all pre : List Ident) (st : Tab × Int) : Prop where
  names : st.1.Pairwise (·.name ≠ ·.name)
  src : ∀ e ∈ st.1, e.value ≠ 0 → ∃ i ∈ all, i.name = e.name ∧ i.value = e.value
  mx : ∀ i ∈ pre, i.value ≤ st.2
  ent : ∀ i ∈ pre, i.value ≠ 0 → ∃ e ∈ st.1, e.name = i.name ∧ e.value = i.value
  two : 2 ≤ st.2

theorem Good.map {all pre : List Ident} {t : Tab} {m : Int} (h : Good all pre (t, m)) (g : Id → Id) (m' : Int)
    (hm : m ≤ m') (hn : ∀ e, (g e).name = e.name)
    (hs : ∀ e ∈ t, (g e).value ≠ 0 → ∃ i ∈ all, i.name = e.name ∧ i.value = (g e).value)
    (hk : ∀ e ∈ t, e.value ≠ 0 → (g e).value = e.value) : Good all pre (t.map g, m') := by
  refine ⟨List.pairwise_map.2 (h.names.imp fun hab => by rw [hn, hn]; exact hab),
    List.forall_mem_map.2 fun e he hnz => hn e ▸ hs e he hnz,
    fun i hi => Int.le_trans (h.mx i hi) hm, fun i hi hnz => ?_, Int.le_trans h.two hm⟩
  obtain ⟨e, he, hen, hev⟩ := h.ent i hi hnz
  exact ⟨g e, List.mem_map.2 ⟨e, he, rfl⟩, (hn e).trans hen, (hk e he (hev ▸ hnz)).trans hev⟩

theorem Good.snoc {all pre : List Ident} {t : Tab} {m : Int} (h : Good all pre (t, m)) (x : Id) (m' : Int)
    (hm : m ≤ m') (hn : ∀ e ∈ t, e.name ≠ x.name)
    (hs : x.value ≠ 0 → ∃ i ∈ all, i.name = x.name ∧ i.value = x.value) : Good all pre (t ++ [x], m') := by
  refine ⟨List.pairwise_append.2 ⟨h.names, List.pairwise_singleton _ _, fun a ha y hy => ?_⟩,
    List.forall_mem_append.2 ⟨h.src, List.forall_mem_singleton.2 hs⟩,
    fun i hi => Int.le_trans (h.mx i hi) hm, fun i hi hnz => ?_, Int.le_trans h.two hm⟩
  · rw [List.mem_singleton.1 hy]; exact hn a ha
  · obtain ⟨e, he, hen, hev⟩ := h.ent i hi hnz
    exact ⟨e, List.mem_append_left _ he, hen, hev⟩

theorem Good.push {all pre : List Ident} {st : Tab × Int} (h : Good all pre st) (id : Ident)
    (hmx : id.value ≤ st.2) (hent : id.value ≠ 0 → ∃ e ∈ st.1, e.name = id.name ∧ e.value = id.value) :
    Good all (pre ++ [id]) st :=
  ⟨h.names, h.src, List.forall_mem_append.2 ⟨h.mx, List.forall_mem_singleton.2 hmx⟩,
    List.forall_mem_append.2 ⟨h.ent, List.forall_mem_singleton.2 hent⟩, h.two⟩

/-- when every declaration is processed the table invariant holds: two numbered entries with the same
    code would carry the name that declares it (`WFdist`) -/
theorem Good.inv {all : List Ident} {st : Tab × Int} (h : Good all all st) (hnn : WFnn all) (hd : WFdist all) :
    Inv st := by
  refine ⟨h.names.imp_of_mem fun {a b} ha hb hab => ⟨hab, fun heq => Classical.byContradiction fun hnz => ?_⟩,
    fun e he => ?_, fun e he => ?_, h.two⟩
  · obtain ⟨i, hi, hin, hiv⟩ := h.src a ha hnz
    obtain ⟨j, hj, hjn, hjv⟩ := h.src b hb (heq ▸ hnz)
    exact hab (hin ▸ hjn ▸ hd i hi j hj (hiv ▸ hnz) (by rw [hiv, hjv, heq]))
  · by_cases hz : e.value = 0
    · have := h.two; omega
    · obtain ⟨i, hi, _, hiv⟩ := h.src e he hz
      exact hiv ▸ h.mx i hi
  · by_cases hz : e.value = 0
    · omega
    · obtain ⟨i, hi, _, hiv⟩ := h.src e he hz
      exact hiv ▸ hnn i hi

theorem good_atStep (all : List Ident) (ho : WFone all) (pre : List Ident) (st : Tab × Int) (id : Ident)
    (hid : id ∈ all) (h : Good all pre st) : Good all (pre ++ [id]) (atStep st id) := by
  obtain ⟨hm1, hm2⟩ := mxOf_ge st id
  unfold atStep
  split
  · next hh =>
    refine (h.map (merge id) _ hm1 (merge_name id) (fun e he hnz => ?_) (fun e he hnz => ?_)).push id hm2
      fun hnz => ?_
    · rw [merge_value] at hnz ⊢
      by_cases hc : e.name = id.name ∧ id.value ≠ 0
      · rw [if_pos hc]; exact ⟨id, hid, hc.1.symm, rfl⟩
      · rw [if_neg hc] at hnz ⊢; exact h.src e he hnz
    · -- a numbered entry of this name has the number declared here (`WFone`)
      rw [merge_value]; split
      · next hc =>
        obtain ⟨j, hj, hjn, hjv⟩ := h.src e he hnz
        rw [← hjv]; exact (ho j hj id hid (by rw [hjv]; exact hnz) hc.2 (hjn.trans hc.1)).symm
      · rfl
    · obtain ⟨e, he, hen⟩ := has_iff.1 hh
      exact ⟨merge id e, List.mem_map.2 ⟨e, he, rfl⟩, (merge_name id e).trans hen,
        by rw [merge_value, if_pos ⟨hen, hnz⟩]⟩
  · next hh =>
    exact (h.snoc ⟨id.name, true, id.value, id.tag, id.alias⟩ _ hm1 (has_false hh)
      fun _ => ⟨id, hid, rfl, rfl⟩).push id hm2
      fun _ => ⟨_, List.mem_append_right _ (List.mem_singleton.2 rfl), rfl, rfl⟩

theorem good_atFold (all : List Ident) (ho : WFone all) (l pre : List Ident) (st : Tab × Int)
    (hl : ∀ i ∈ l, i ∈ all) (h : Good all pre st) : Good all (pre ++ l) (l.foldl atStep st) := by
  induction l generalizing pre st with
  | nil => rw [List.append_nil]; exact h
  | cons i l ih =>
    rw [List.foldl_cons, List.append_cons]
    exact ih _ _ (fun j hj => hl j (List.mem_cons_of_mem _ hj))
      (good_atStep all ho pre st i (hl i List.mem_cons_self) h)

theorem tokFold_spec (d : Decl) (ho : WFone (idents d)) : Good (idents d) (idents d) (tokFold d) := by
  rw [tokFold_eq]
  exact good_atFold (idents d) ho (idents d) [] _ (fun _ h => h)
    ⟨.nil, fun _ h => absurd h List.not_mem_nil, fun _ h => absurd h List.not_mem_nil,
      fun _ h => absurd h List.not_mem_nil, Int.le_refl 2⟩

/-! ## `addTypes` and the start symbol: entries keep their name and code, new entries have code 0 -/

theorem good_addTypes (all pre : List Ident) (m : Int) (t : Tab) (tys : List TypeDef)
    (h : Good all pre (t, m)) : Good all pre (addTypes t tys, m) := by
  unfold addTypes
  refine List.foldlRecOn (motive := fun t => Good all pre (t, m)) _ _ h fun tab hg ty _ => ?_
  split
  · have hv (e : Id) : (if e.name == ty.name then { e with tag := ty.tag } else e).value = e.value := by
      split <;> rfl
    exact hg.map _ m (Int.le_refl _) (fun e => by dsimp only; split <;> rfl)
      (fun e he hnz => hv e ▸ hg.src e he (hv e ▸ hnz)) fun e _ _ => hv e
  · next hh => exact hg.snoc _ m (Int.le_refl _) (has_false hh) fun hnz => absurd rfl hnz

def withStart (d : Decl) (tab : Tab) : Tab :=
  if d.start != "" && !tab.has d.start then tab ++ [⟨d.start, false, 0, "", ""⟩] else tab

theorem good_withStart (all pre : List Ident) (m : Int) (t : Tab) (d : Decl)
    (h : Good all pre (t, m)) : Good all pre (withStart d t, m) := by
  unfold withStart
  split
  · next hc =>
    exact h.snoc _ m (Int.le_refl _) (has_false fun hh => by simp [hh] at hc) fun hnz => absurd rfl hnz
  · exact h

/-- the table handed to `numberRest` -/
def declTab (d : Decl) : Tab := withStart d (addTypes (tokFold d).1 d.typeDefs)

theorem processDecl_eq (d : Decl) : processDecl d =
    match addPrecs (addTypes (tokFold d).1 d.typeDefs) d.precDefs with
    | none => .error .precsym
    | some pre => .ok { tab := (numberRest (declTab d) (tokFold d).2).1,
                        idMax := (numberRest (declTab d) (tokFold d).2).2,
                        preIds := pre, start := d.start } := rfl

theorem processDecl_ok (d : Decl) (ds : Decls) (h : processDecl d = .ok ds) :
    ds.tab = (numberRest (declTab d) (tokFold d).2).1 ∧
    ds.idMax = (numberRest (declTab d) (tokFold d).2).2 := by
  rw [processDecl_eq] at h
  split at h
  · cases h
  · cases h; exact ⟨rfl, rfl⟩

theorem declTab_good (d : Decl) (hwf : WF d) :
    Good (idents d) (idents d) (declTab d, (tokFold d).2) :=
  good_withStart _ _ _ _ d (good_addTypes _ _ _ _ _ (tokFold_spec d hwf.2.2))

theorem declTab_inv (d : Decl) (hwf : WF d) : Inv (declTab d, (tokFold d).2) :=
  (declTab_good d hwf).inv hwf.1 hwf.2.1

/-- **C11 (all codes distinct).** On a well-formed declaration part, the table `processDecl` returns
    has pairwise distinct names and pairwise distinct codes, and every code is positive (so neither
    0 = unnumbered nor -1 = skipped) and at most `idMax`. -/
theorem C11_codes_distinct (d : Decl) (ds : Decls) (hwf : WF d) (h : processDecl d = .ok ds) :
    ds.tab.Pairwise (fun a b => a.name ≠ b.name ∧ a.value ≠ b.value) ∧
    ∀ e ∈ ds.tab, 0 < e.value ∧ e.value ≤ ds.idMax := by
  obtain ⟨ht, hm⟩ := processDecl_ok d ds h
  obtain ⟨hi, _, hz⟩ := numberRest_spec _ _ (declTab_inv d hwf)
  rw [ht, hm]
  exact hi.distinct hz

/-- **C11 (explicit codes are kept).** Every token declared with an explicit number or a literal code
    is in the final table with exactly that code, and looking its name up finds that entry. -/
theorem C11_codes_kept (d : Decl) (ds : Decls) (hwf : WF d) (h : processDecl d = .ok ds) :
    ∀ i ∈ idents d, i.value ≠ 0 →
      ∃ e ∈ ds.tab, e.name = i.name ∧ e.value = i.value ∧ ds.tab.find i.name = some e := by
  intro i hi hnz
  obtain ⟨e, he, hen, hev⟩ := (declTab_good d hwf).ent i hi hnz
  obtain ⟨hi', hx, _⟩ := numberRest_spec _ _ (declTab_inv d hwf)
  have hk := hx.kept e he (hev ▸ hnz)
  rw [(processDecl_ok d ds h).1]
  exact ⟨e, hk, hen, hev, hen ▸ hi'.find hk⟩

/-- **C11 (assigned codes are fresh).** Every entry of the final table either carries the explicit
    code of one of its declarations, or was unnumbered (code 0) before `numberRest` and received a
    code greater than 2, greater than every explicit code and greater than every code present in
    the table before `numberRest`; nothing but its code was changed. -/
theorem C11_codes_fresh (d : Decl) (ds : Decls) (hwf : WF d) (h : processDecl d = .ok ds) :
    ∀ e ∈ ds.tab,
      (∃ i ∈ idents d, i.name = e.name ∧ i.value = e.value ∧ i.value ≠ 0) ∨
      (2 < e.value ∧ (∀ i ∈ idents d, i.value < e.value) ∧ (∀ x ∈ declTab d, x.value < e.value) ∧
        ∃ e0 ∈ declTab d, e0.value = 0 ∧ e = { e0 with value := e.value }) := by
  intro e he
  have hg := declTab_good d hwf
  have hi := declTab_inv d hwf
  obtain ⟨_, hx, hz⟩ := numberRest_spec _ _ hi
  rw [(processDecl_ok d ds h).1] at he
  rcases hx.orig e he with hm | ⟨e0, hm, hz0, heq, hlt⟩
  · obtain ⟨i, hi, hin, hiv⟩ := hg.src e hm (hz e he)
    exact .inl ⟨i, hi, hin, hiv, hiv ▸ hz e he⟩
  · have h2 := hi.two
    dsimp only at hlt h2
    refine .inr ⟨by omega, fun i hi => ?_, fun x hx => ?_, e0, hm, hz0, heq⟩
    · have := hg.mx i hi; dsimp only at this; omega
    · have := hi.le x hx; dsimp only at this; omega

/-! ## the rule part: left-hand sides become nonterminals with fresh codes -/

def lhsStep (st : Tab × Int) (r : RuleDef) : Tab × Int :=
  if st.1.has r.lhs then st else (st.1 ++ [⟨r.lhs, false, st.2 + 1, "", ""⟩], st.2 + 1)

def lhsFold (ds : Decls) (rules : List RuleDef) : Tab × Int := rules.foldl lhsStep (ds.tab, ds.idMax)

theorem processRules_ok (ds ds' : Decls) (rules : List RuleDef) (vs : List VRule)
    (h : processRules ds rules = .ok (ds', vs)) :
    ds' = { ds with tab := (lhsFold ds rules).1, idMax := (lhsFold ds rules).2 } := by
  unfold processRules at h
  generalize hq : List.foldl _ (ds.tab, ds.idMax) rules = p at h
  have hp : lhsFold ds rules = p := hq
  rw [hp]
  obtain ⟨tab, mx⟩ := p
  dsimp only at h
  split at h
  · cases h
  · cases h
    rfl

theorem lhsFold_inv (rules : List RuleDef) (st : Tab × Int) (h : Inv st) (hz : ∀ e ∈ st.1, e.value ≠ 0) :
    (Inv (rules.foldl lhsStep st) ∧ ∀ e ∈ (rules.foldl lhsStep st).1, e.value ≠ 0) ∧
    ∀ e ∈ st.1, e ∈ (rules.foldl lhsStep st).1 := by
  refine List.foldlRecOn (motive := fun s => (Inv s ∧ ∀ e ∈ s.1, e.value ≠ 0) ∧ ∀ e ∈ st.1, e ∈ s.1) _ _
    ⟨⟨h, hz⟩, fun _ he => he⟩ fun s ⟨⟨hi, hnz⟩, hk⟩ r _ => ?_
  unfold lhsStep
  split
  · exact ⟨⟨hi, hnz⟩, hk⟩
  · next hh =>
    have h2 := hi.two
    have hmem {p : Id → Prop} (hold : ∀ e ∈ s.1, p e) (hnew : p ⟨r.lhs, false, s.2 + 1, "", ""⟩) :=
      List.forall_mem_append.2 ⟨hold, List.forall_mem_singleton.2 hnew⟩
    refine ⟨⟨⟨List.pairwise_append.2 ⟨hi.pw, List.pairwise_singleton _ _, fun a ha y hy => ?_⟩, ?_, ?_, ?_⟩, ?_⟩,
      fun e he => List.mem_append_left _ (hk e he)⟩
    · rw [List.mem_singleton.1 hy]
      exact ⟨has_false hh a ha, fun hv => by have := hi.le a ha; dsimp only at hv; omega⟩
    · exact hmem (fun e he => by have := hi.le e he; dsimp only; omega) (Int.le_refl _)
    · exact hmem hi.nn (by dsimp only; omega)
    · dsimp only; omega
    · exact hmem hnz (by dsimp only; omega)

/-- **C11 (after the rule part).** The table handed to the grammar construction — the declared
    identifiers plus the left-hand sides numbered by `processRules` — still has pairwise distinct
    names and pairwise distinct positive codes, and every entry of the declaration table is kept. -/
theorem C11_codes_distinct_rules (d : Decl) (ds ds' : Decls) (rules : List RuleDef) (vs : List VRule)
    (hwf : WF d) (h1 : processDecl d = .ok ds) (h2 : processRules ds rules = .ok (ds', vs)) :
    ds'.tab.Pairwise (fun a b => a.name ≠ b.name ∧ a.value ≠ b.value) ∧
    (∀ e ∈ ds'.tab, 0 < e.value ∧ e.value ≤ ds'.idMax) ∧
    ∀ e ∈ ds.tab, e ∈ ds'.tab := by
  obtain ⟨ht, hm⟩ := processDecl_ok d ds h1
  obtain ⟨hi, _, hz⟩ := numberRest_spec _ _ (declTab_inv d hwf)
  obtain ⟨⟨hi', hz'⟩, hk⟩ := lhsFold_inv rules (ds.tab, ds.idMax) (by rw [ht, hm]; exact hi)
    (by rw [ht]; exact hz)
  rw [processRules_ok ds ds' rules vs h2]
  exact ⟨(hi'.distinct hz').1, (hi'.distinct hz').2, hk⟩

/-! ## the symbol table of the grammar: all `value`s distinct -/

/-- the identifiers that become symbols 2, 3, … of `buildSyms` -/
def symIds (ds : Decls) : List Id :=
  ((ds.tab.sorted.filter (·.isTerm)) ++ (ds.tab.sorted.filter (!·.isTerm))).filter (·.value != -1)

theorem buildSyms_values (ds : Decls) :
    (buildSyms ds).map (·.value) = [0, -1] ++ (symIds ds).map (·.value) := by
  unfold buildSyms symIds
  simp only [List.map_append, List.map_cons, List.map_nil]
  congr 1
  apply List.ext_getElem
  · simp
  · intro k h1 h2
    simp only [List.getElem_map, List.getElem_mapIdx]
    split
    · split <;> rfl
    · rfl

theorem symIds_perm_sub (ds : Decls) : ∃ l, (symIds ds).Sublist l ∧ l.Perm ds.tab := by
  refine ⟨_, List.filter_sublist, ?_⟩
  exact (List.filter_append_perm _ _).trans (List.mergeSort_perm _ _)

/-- **C11 (symbol values).** In the symbol table built from a well-formed declaration part and
    any rule part, the `value`s (0 for `start`, -1 for `$`, the token code otherwise) are pairwise
    distinct. -/
theorem C11_sym_values_distinct (d : Decl) (ds ds' : Decls) (rules : List RuleDef) (vs : List VRule)
    (hwf : WF d) (h1 : processDecl d = .ok ds) (h2 : processRules ds rules = .ok (ds', vs)) :
    ((buildSyms ds').map (·.value)).Nodup := by
  obtain ⟨ha, hb, _⟩ := C11_codes_distinct_rules d ds ds' rules vs hwf h1 h2
  obtain ⟨l, hsub, hperm⟩ := symIds_perm_sub ds'
  have hnd : (ds'.tab.map (·.value)).Nodup :=
    List.pairwise_map.2 (ha.imp fun hab => hab.2)
  have hnd2 : ((symIds ds').map (·.value)).Nodup :=
    ((hperm.map _).nodup_iff.2 hnd).sublist (hsub.map _)
  have hpos : ∀ v ∈ (symIds ds').map (·.value), 0 < v := by
    intro v hv
    obtain ⟨e, he, rfl⟩ := List.mem_map.1 hv
    exact (hb e (hperm.mem_iff.1 (hsub.subset he))).1
  rw [buildSyms_values, List.nodup_append]
  refine ⟨by decide, hnd2, ?_⟩
  intro a ha' b hb' hab
  have := hpos b hb'
  simp at ha'
  omega

/-! ## non-vacuity -/

/-- `%token NUM '+'` and `%token ID 300 NUM` (NUM twice; the literal `'+'` is held under its temporary name
    `$operator+` with its character code 43 and alias `+`), `%type <val> expr`, `%start expr` -/
def exDecl : Decl :=
  { tokDefs := [[⟨"NUM", 0, "", ""⟩, ⟨"$operator+", 43, "", "+"⟩], [⟨"ID", 300, "", ""⟩, ⟨"NUM", 0, "", ""⟩]],
    typeDefs := [⟨"expr", "val"⟩], start := "expr" }

example : WF exDecl := by decide

example : ∃ ds, processDecl exDecl = .ok ds := ⟨_, by rw [processDecl_eq]; rfl⟩

example (ds : Decls) (h : processDecl exDecl = .ok ds) :
    ∃ e, ds.tab.find "ID" = some e ∧ e.value = 300 := by
  obtain ⟨e, _, _, hv, hf⟩ := C11_codes_kept exDecl ds (by decide) h ⟨"ID", 300, "", ""⟩
    (by simp [idents, exDecl]) (by decide)
  exact ⟨e, hf, hv⟩

/-- the precondition is not vacuous the other way either: two names with the same explicit number,
    or an explicit number equal to a literal's code, are excluded -/
example : ¬ WF { tokDefs := [[⟨"A", 5, "", ""⟩, ⟨"B", 5, "", ""⟩]] } := by decide
example : ¬ WF { tokDefs := [[⟨"A", 43, "", ""⟩, ⟨"$operator+", 43, "", "+"⟩]] } := by decide
example : ¬ WF { tokDefs := [[⟨"A", 5, "", ""⟩], [⟨"A", 6, "", ""⟩]] } := by decide

/-- one step of `numberRest` on a concrete table: the unnumbered `A` gets 6, `B` keeps 5 -/
example : ((nrStep ([⟨"A", true, 0, "", ""⟩, ⟨"B", true, 5, "", ""⟩], 5) ⟨"A", true, 0, "", ""⟩).1.map
    fun (i : Id) => (i.name, i.value)) = [("A", 6), ("B", 5)] := by decide

end Visitor
