import Yv.Model.TsSem
import Yv.Gen.TsDriver
import Yv.Model.ArrDrive
import Yv.Proofs.ArrRefine
import Yv.Props.C08
import Yv.Proofs.SemAttr
/-! # C08c — the driver TEXT of the TypeScript back end is the hand model `Y.AD.astep`

`Yv/Gen/TsDriver.lean` is regenerated on every run from the strings in `Builder/TsGenCode.go`
(`buildStateFunc`: `PushStateSym`, `PopStateSym`, `initialize`, `Parser`, `fetchLookAhead`;
`buildReduceFunc`: the frame of `ReduceFunc` and the `initialize();` appended to it) as syntax
trees (`Yv/Model/TsAst.lean`).  Their meaning is the interpreter of `Yv/Model/TsSem.lean`, which
has an EXPLICIT HEAP: the array holds references, so a machine state is related to a stack of the
hand model by `StackRel` (same pointer, slot `i` refers to a `StateSym` cell with the fields of
entry `i`) instead of being equal to it.  `StackRel` determines the model stack
(`stackRel_unique`) and every model stack is reached (`stackRel_total`).  Proved, for every
parameter set `P` (table lookup, action constants, rule data, semantic actions) and every related
pair of states, with no invariant assumed: the translated helper bodies are `AStack.push`,
`AStack.pop` (for `n ≤ sp`; the pointer goes negative otherwise) and `initGlobal` (the stack
`[(0,1)]`, pointer 1), also for the `initialize();` at module level; one iteration of the translated
`while (true)` loop of `Parser` is `astep P c`; the whole translated `Parser` is
`arun P fuel (ainit s w)`, `fuel` bounding the number of iterations, for all outcome classes: value /
`console.error` once and `null` / TypeError / `null` from the guards / out of fuel.  `Parser` does
NOT re-initialise: a second call runs from the stack the first one left.

An edit of the driver text changes `Yv/Gen/TsDriver.lean`; then these proofs are re-checked and
fail unless the edit preserves the meaning.

## The TypeScript text against the hand model

INSIDE the certified domain (every table cell that is consulted is the error code, the accept
code, a positive shift/goto or a negative reduce by a rule that has a `case`; the pointer is within
`1 … length`) `step_ts_eq` shows no difference in stack, input consumption, reductions, values and
verdict.  What the relation deliberately leaves out: the TypeScript text emits no trace events
(`Rel` says nothing about `ACfg.trace`); a syntax error is `console.error("Grammer error")`
followed by `return null` (no position, no token; the Go templates `panic` with a message); the
`ValType` of the bottom entry is `undefined` (`K.undefV`), in Go the zero value.

OUTSIDE that domain the interpreter of `TsSem` reports `crash` in the same iteration as `astep`,
by the modelling decisions listed in `TsSem`; real JavaScript also ends in a TypeError, but LATER,
and these four cases are therefore NOT claims about node:
1. a table COLUMN out of range (`P.L = none` because of the symbol): `StateActionArray[st][a]` is
   `undefined`, no exception; all three tests on `action` are false, so the reduce branch runs
   `ReduceFunc(NaN)` (no `case`), pushes an entry whose `Yystate` is `undefined`, and the NEXT
   iteration fails in `Action` with a TypeError.  (A ROW out of range is a TypeError at once.)
2. a reduce by a rule without `case` (rule 0, or a number beyond the rules): the `switch` does
   nothing (`caseBody` models this), `ReduceFunc` returns `StateSym(-1,-1)`, `state.Action(-1)` is
   `undefined` and the run continues as in 1.  `TsSem`: `Action` with a negative column = crash.
3. a negative goto cell: `SymTy.Yystate = gotoState` succeeds, the entry is pushed, the next
   iteration's `StateActionArray[negative]` is `undefined` and `Action` throws.  `TsSem`: the
   assignment of a negative number to `Yystate` = crash.
4. a handle longer than the stack above the bottom entry (`n > sp - 1`): `slice` with a negative
   start does not throw (it counts from the end), the action runs on the wrong entries,
   `PopStateSym(n)` makes the pointer ≤ 0 and `StateSymStack[sp-1]` is `undefined`: TypeError in
   the SAME iteration.  `TsSem`/`caseBody`: crash at the slice; the Go templates: slice bounds panic.
In all four the outcome class (TypeError, nothing returned, nothing printed) is the one of `astep`. -/
namespace C08c
open Y Y.D Y.AD TsSem

/-- the statements `rest` after a statement that ended in `r`: kept as data while `r` is undecided -/
def thenExecs {V : Type} (P : Params V) (K : Consts V) (X : Ext V) (f : Nat) (r : Res V) (rest : List Gen.Ts.Stmt) : Res V :=
  match r with
  | .norm m => execs P K X f m rest
  | r' => r'

section
variable {V : Type} (P : Params V) (K : Consts V) (X : Ext V) (f : Nat) (m : M V) (v : Val V) (r : List Gen.Ts.Stmt)

theorem execs_nil : execs P K X f m [] = .norm m := by rw [execs]
theorem execs_cons (s : Gen.Ts.Stmt) : execs P K X f m (s :: r) = thenExecs P K X f (exec P K X f m s) r := by
  rw [execs]; rfl
theorem thenExecs_norm : thenExecs P K X f (.norm m) r = execs P K X f m r := rfl
theorem thenExecs_brk : thenExecs P K X f (.brk m) r = .brk m := rfl
theorem thenExecs_ret : thenExecs P K X f (.ret v m) r = .ret v m := rfl
theorem thenExecs_crash : thenExecs P K X f .crash r = .crash := rfl
theorem thenExecs_outOfFuel : thenExecs P K X f .outOfFuel r = .outOfFuel := rfl

end

attribute [ts_sem] execs_nil execs_cons thenExecs_norm thenExecs_brk thenExecs_ret thenExecs_crash thenExecs_outOfFuel
  exec eval evalArgs callFn caseBody idVal lookup setVar store ofStore ofRes binVal selStep selVal isStack isPush indexVal
  leave popEnv setField getField allRefs newVal objVal toV List.map_cons List.map_nil List.zip_cons_cons
  List.zip_nil_right List.zip_nil_left List.length_cons List.length_nil List.drop_zero List.drop_succ_cons Nat.sub_self
  Bool.true_eq_false Bool.false_eq_true Bool.and_self Bool.and_true Bool.and_false decide_eq_true_eq and_self true_and
  and_true false_and Int.natCast_eq_zero Int.ofNat_lt Int.ofNat_le Int.natCast_nonneg Int.toNat_natCast Int.natCast_add
  Int.natCast_one

/-- run the interpreter on a concrete program (as `go_simp` in `C08b`): `ts_sem` holds its
    equations, arithmetic on the literals that scoping produces, and the casts `Nat → Int` pushed
    inwards; the simprocs cannot be tagged and are named here -/
syntax "ts_simp" "[" Lean.Parser.Tactic.simpLemma,* "]" : tactic
macro_rules
  | `(tactic| ts_simp [$ls,*]) =>
    `(tactic| simp only [ts_sem, Nat.reduceAdd, Nat.reduceSub, ↓reduceIte, reduceCtorEq, $ls,*])

theorem pop_run {V : Type} (P : Params V) (K : Consts V) (fuel : Nat) (m : M V) (n : Int) :
    invoke P K ext0 fuel Gen.Ts.pop [.num n] m = .norm { m with sp := m.sp - n } := by
  simp only [Gen.Ts.pop]
  ts_simp [invoke]

theorem fetch_eq {V : Type} (P : Params V) (K : Consts V) (fuel : Nat) (m : M V) (μ : Nat) :
    invoke P K ext0 fuel Gen.Ts.fetchLookAhead [.str, .ref μ] m =
      match m.heap[μ]? with
      | some (.model _) =>
        .ret (.num (headTok P.eofVal m.input).1)
          { m with heap := m.heap.set μ (.model (headTok P.eofVal m.input).2),
                   input := m.input.tail, req := m.req + 1 }
      | _ => .crash := by
  simp only [Gen.Ts.fetchLookAhead]
  ts_simp [invoke]
  cases h : m.heap[μ]? with
  | none => rfl
  | some c => cases c <;> rfl

theorem fetch_run {V : Type} (P : Params V) (K : Consts V) (fuel : Nat) (m : M V) (μ : Nat) (v0 : V)
    (hμ : m.heap[μ]? = some (.model v0)) :
    invoke P K ext0 fuel Gen.Ts.fetchLookAhead [.str, .ref μ] m
      = .ret (.num (headTok P.eofVal m.input).1)
          { m with heap := m.heap.set μ (.model (headTok P.eofVal m.input).2),
                   input := m.input.tail, req := m.req + 1 } := by
  rw [fetch_eq, hμ]

/-- the heap cell of a stack entry of the hand model -/
def cellOf {V : Type} (e : Entry V) : Cell V := .sym (e.st : Int) (e.sym : Int) e.val

/-- the array `l` of references read through the heap `h` -/
def readArr {V : Type} (h : List (Cell V)) (l : List Nat) : List (Option (Cell V)) := l.map (fun a => h[a]?)

def cells {V : Type} (es : List (Entry V)) : List (Option (Cell V)) := es.map (fun e => some (cellOf e))

/-- `StateSymStack`/`StackPointer` of the machine state ARE the array and pointer `s` of the hand
    model: same pointer, same length, and slot `i` refers to a `StateSym` cell with the fields of
    `s.a[i]` (stale slots included; two slots may refer to the same cell) -/
def StackRel {V : Type} (m : M V) (s : AStack V) : Prop :=
  m.sp = (s.sp : Int) ∧ readArr m.heap m.arr = cells s.a

theorem cellOf_inj {V : Type} (e e' : Entry V) (h : cellOf e = cellOf e') : e = e' := by
  obtain ⟨a, b, c⟩ := e
  obtain ⟨a', b', c'⟩ := e'
  simp only [cellOf, Cell.sym.injEq, Int.natCast_inj] at h
  obtain ⟨h1, h2, h3⟩ := h
  subst h1 h2 h3
  rfl

theorem stackRel_unique {V : Type} (m : M V) (s s' : AStack V) (h : StackRel m s) (h' : StackRel m s') : s = s' := by
  obtain ⟨a, sp⟩ := s
  obtain ⟨a', sp'⟩ := s'
  rw [show sp = sp' from Int.natCast_inj.mp (h.1.symm.trans h'.1),
    show a = a' from (List.map_inj_right fun e e' he => cellOf_inj e e' (Option.some.inj he)).mp (h.2.symm.trans h'.2)]

theorem readArr_length {V : Type} (h : List (Cell V)) (l : List Nat) (es : List (Entry V))
    (hr : readArr h l = cells es) : l.length = es.length := by
  have := congrArg List.length hr
  simpa [readArr, cells] using this

theorem readArr_get {V : Type} (h : List (Cell V)) (l : List Nat) (es : List (Entry V))
    (hr : readArr h l = cells es) (i : Nat) (e : Entry V) (he : es[i]? = some e) :
    ∃ a, l[i]? = some a ∧ h[a]? = some (cellOf e) := by
  have h1 : (readArr h l)[i]? = (cells es)[i]? := by rw [hr]
  simpa only [readArr, cells, List.getElem?_map, he, Option.map_some, Option.map_eq_some_iff] using h1

/-- every `StateSym` cell of `h` is still there in `h'`: cells were added, `model` objects updated -/
def SymsKept {V : Type} (h h' : List (Cell V)) : Prop :=
  ∀ (a : Nat) (st sy : Int) (v : V), h[a]? = some (Cell.sym st sy v) → h'[a]? = some (Cell.sym st sy v)

theorem getElem?_append_some {α : Type} (h l : List α) (a : Nat) (c : α) (hc : h[a]? = some c) : (h ++ l)[a]? = some c := by
  rw [List.getElem?_append_left (List.getElem?_eq_some_iff.mp hc).1]; exact hc

theorem SymsKept.append {V : Type} (h l : List (Cell V)) : SymsKept h (h ++ l) :=
  fun a _ _ _ hc => getElem?_append_some h l a _ hc

theorem set_concat {α : Type} (l : List α) (x y : α) : (l ++ [x]).set l.length y = l ++ [y] := by
  rw [List.set_append_right _ _ (Nat.le_refl _), Nat.sub_self]; rfl

theorem SymsKept.set_model {V : Type} (h : List (Cell V)) (μ : Nat) (v0 : V) (c' : Cell V) (hμ : h[μ]? = some (.model v0)) :
    SymsKept h (h.set μ c') := by
  intro a st sy v hc
  have hne : μ ≠ a := by
    intro e; subst e; rw [hμ] at hc; cases hc
  rw [List.getElem?_set_ne hne]; exact hc

/-- the array of references reads the same in a heap that kept the `StateSym` cells -/
theorem SymsKept.readArr {V : Type} {h h' : List (Cell V)} (hk : SymsKept h h') (l : List Nat)
    (es : List (Entry V)) (hr : readArr h l = cells es) : readArr h' l = cells es := by
  rw [← hr]
  refine List.map_congr_left fun a ha => ?_
  have hm : h[a]? ∈ cells es := hr ▸ List.mem_map_of_mem (f := fun a => h[a]?) ha
  obtain ⟨e, -, he⟩ := List.mem_map.mp hm
  rw [← he]
  exact hk a _ _ _ he.symm

theorem cellVals_of {V : Type} (h : List (Cell V)) :
    ∀ (l : List Nat) (es : List (Entry V)), readArr h l = cells es → cellVals h l = some (es.map Entry.val)
  | [], [], _ => rfl
  | [], _ :: _, hr => by simp [readArr, cells] at hr
  | _ :: _, [], hr => by simp [readArr, cells] at hr
  | a :: l, e :: es, hr => by
    simp only [readArr, cells, List.map_cons, List.cons.injEq] at hr
    have ih := cellVals_of h l es hr.2
    simp only [cellVals, hr.1, cellOf, ih, List.map_cons]

/-- the `ValType`s of `Dollar[1..n]`, read through the heap -/
theorem cellVals_dollar {V : Type} (h : List (Cell V)) (arr : List Nat) (s : AStack V) (n : Nat)
    (hr : readArr h arr = cells s.a) :
    cellVals h ((((arr.drop (s.sp - 1 - n)).take (n + 1)).drop 1).take n) = some (((s.dollar n).drop 1).map Entry.val) := by
  rw [List.take_of_length_le (by simp only [List.length_drop, List.length_take]; omega)]
  apply cellVals_of
  simp only [readArr, cells, List.map_drop, List.map_take, AStack.dollar] at hr ⊢
  rw [hr]

/-- the machine state after `PushStateSym(a)` when the pointer is inside `0 … length` -/
def pushed {V : Type} (m : M V) (a : Nat) : M V :=
  { m with arr := if m.sp ≥ (m.arr.length : Int) then m.arr ++ [a] else m.arr.set m.sp.toNat a, sp := m.sp + 1 }

theorem push_ts_eq {V : Type} (P : Params V) (K : Consts V) (fuel : Nat) (m : M V) (s : AStack V) (a : Nat)
    (e : Entry V) (h : StackRel m s) (ha : m.heap[a]? = some (cellOf e)) :
    invoke P K ext0 fuel Gen.Ts.push [.ref a] m = .norm (pushed m a) ∧ StackRel (pushed m a) (s.push e) := by
  obtain ⟨heap, arr, sp, env, input, req, reds, errs⟩ := m
  obtain ⟨hsp, hr⟩ := h
  simp only at hsp hr ha
  subst hsp
  have hlen := readArr_length _ _ _ hr
  simp only [Gen.Ts.push, pushed, AStack.push, StackRel, readArr, cells] at hr ⊢
  by_cases hge : s.sp ≥ s.a.length
  · ts_simp [invoke, hge, hlen, List.map_append, hr, ha]
  · ts_simp [invoke, hge, hlen, Nat.lt_of_not_ge hge, List.map_set, hr, ha]

/-- JavaScript subtracts on numbers: the pointer becomes `sp - n`, negative when `n > sp`;
    `AStack.pop` (truncated subtraction on `Nat`) is the text exactly when `n ≤ sp` — which the
    guard on the slice in `caseBody` establishes before `PopStateSym(n)` -/
theorem pop_ts_eq {V : Type} (P : Params V) (K : Consts V) (fuel : Nat) (m : M V) (s : AStack V) (n : Nat)
    (h : StackRel m s) (hn : n ≤ s.sp) :
    invoke P K ext0 fuel Gen.Ts.pop [.num n] m = .norm { m with sp := m.sp - (n : Int) } ∧
    StackRel { m with sp := m.sp - (n : Int) } (s.pop n) := by
  rw [pop_run]
  refine ⟨rfl, ?_, h.2⟩
  simp only [AStack.pop, h.1, Int.natCast_sub hn]

/-- without the hypothesis the two differ: the text's pointer goes negative, the model's stops at 0 -/
theorem pop_ts_neg {V : Type} (P : Params V) (K : Consts V) (fuel : Nat) (m : M V) (s : AStack V) (n : Nat)
    (h : StackRel m s) (hn : s.sp < n) :
    ∃ m', invoke P K ext0 fuel Gen.Ts.pop [.num n] m = .norm m' ∧ m'.sp < 0 ∧ ¬ StackRel m' (s.pop n) := by
  rw [pop_run]
  refine ⟨_, rfl, ?_, ?_⟩
  · simp only [h.1]; omega
  · intro hc
    have := hc.1
    simp only [AStack.pop, h.1] at this
    omega

/-- `initialize()` allocates ONE new `StateSym(0,1)` (its `ValType` is `undefined`), makes
    `StateSymStack` a new one-element array referring to it and sets the pointer to 1, whatever was
    there before: the initial stack `[(0,1)]`, pointer 1, of the hand model -/
theorem init_ts_eq {V : Type} (P : Params V) (K : Consts V) (fuel : Nat) (m : M V) :
    invoke P K ext0 fuel Gen.Ts.initialize [] m
      = .norm { m with heap := m.heap ++ [.sym 0 1 K.undefV], arr := [m.heap.length], sp := 1 } ∧
    StackRel { m with heap := m.heap ++ [.sym 0 1 K.undefV], arr := [m.heap.length], sp := 1 } (initGlobal K.undefV) := by
  simp only [Gen.Ts.initialize, StackRel, readArr, cells, initGlobal, bottom, cellOf]
  ts_simp [invoke, List.getElem?_concat_length]
  rfl

/-- the body of the first `while (true) { … }` of a statement list -/
def loopOf : List Gen.Ts.Stmt → List Gen.Ts.Stmt
  | [] => []
  | .loop b :: _ => b
  | _ :: r => loopOf r

/-- the translated functions `Parser` calls -/
def extP {V : Type} (P : Params V) (K : Consts V) : Ext V :=
  extOf P K Gen.Ts.push Gen.Ts.pop Gen.Ts.initialize Gen.Ts.fetchLookAhead Gen.Ts.reduceFrame

/-- the local variables of `Parser` at the head of the loop (`μ` = address of the `model` object) -/
def parserEnv {V : Type} (la : Sym) (μ : Nat) : List (Gen.Ts.Id × Val V) :=
  [(.lookAhead, .num la), (.model, .ref μ), (.val, .undef), (.currentPos, .num 0), (.input, .str)]

/-- the machine state `m` at the head of the loop IS the configuration `c` of the hand model.
    `μ` is the same for the whole call: `Parser` allocates the `model` object once, before the loop,
    its local `model` is never assigned again, `fetchLookAhead` updates the cell in place, and the
    loop only appends `StateSym` cells behind it. -/
structure Rel {V : Type} (eofVal : V) (μ : Nat) (c : ACfg V) (m : M V) : Prop where
  stack : StackRel m c.stack
  env : m.env = parserEnv (alook eofVal c).1 μ
  model : m.heap[μ]? = some (.model (alook eofVal c).2)
  input : m.input = c.rest.tail
  req : m.req = c.req
  reds : m.reds = c.reds

/-- result of one iteration of the text against the result of `astep` -/
def StepRel {V : Type} (eofVal : V) (μ : Nat) (c : ACfg V) (m : M V) : Res V → AStepR V → Prop
  | .norm m', .next c' => Rel eofVal μ c' m' ∧ m'.errs = m.errs
  | .ret w m', .acc v c' => w = .val v ∧ c' = c ∧ m' = m
  | .brk m', .err c' => c' = c ∧ m' = { m with errs := m.errs + 1 }      -- `console.error(…); break`
  | .brk m', .nil => m' = m                                                -- the two guards: `break`
  | .crash, .crash => True
  | _, _ => False

theorem alook_headTok {V : Type} (e : V) (c : ACfg V) : alook e c = headTok e c.rest := rfl

section
variable {V : Type} (P : Params V) (K : Consts V) (m : M V) (vs : List (Val V))

theorem extP_push : (extP P K).push m vs = invoke P K ext0 0 Gen.Ts.push vs m := by rw [extP, extOf]
theorem extP_fetch : (extP P K).fetch m vs = invoke P K ext0 0 Gen.Ts.fetchLookAhead vs m := by rw [extP, extOf]
theorem extP_init : (extP P K).init m vs = invoke P K ext0 0 Gen.Ts.initialize vs m := by rw [extP, extOf]
theorem extP_reduce : (extP P K).reduce m vs = invoke P K (extPop P K Gen.Ts.pop) 0 Gen.Ts.reduceFrame vs m := by
  rw [extP, extOf]
theorem extPop_pop : (extPop P K Gen.Ts.pop).pop m vs = invoke P K ext0 0 Gen.Ts.pop vs m := by rw [extPop]

end

/-- `PushStateSym` of a `StateSym` just allocated at the end of the heap: only the array and the
    pointer change, whatever the other components are, and to the image of `AStack.push` -/
theorem push_fresh {V : Type} (P : Params V) (K : Consts V) (heap : List (Cell V)) (arr : List Nat) (s : AStack V)
    (hr : readArr heap arr = cells s.a) (st : Int) (sy : Nat) (v : V) (hst : 0 ≤ st) :
    ∃ arr' sp', (sp' = ((s.push ⟨st.toNat, sy, v⟩).sp : Int) ∧
        readArr (heap ++ [.sym st sy v]) arr' = cells (s.push ⟨st.toNat, sy, v⟩).a) ∧
      ∀ env input req reds errs,
        invoke P K ext0 0 Gen.Ts.push [.ref heap.length] ⟨heap ++ [.sym st sy v], arr, s.sp, env, input, req, reds, errs⟩
          = .norm ⟨heap ++ [.sym st sy v], arr', sp', env, input, req, reds, errs⟩ := by
  have hr' := (SymsKept.append heap [.sym st sy v]).readArr _ _ hr
  have ha : (heap ++ [Cell.sym st sy v])[heap.length]? = some (cellOf ⟨st.toNat, sy, v⟩) := by
    simp only [cellOf, List.getElem?_concat_length, Int.toNat_of_nonneg hst]
  exact ⟨_, _, (push_ts_eq P K 0 ⟨_, arr, s.sp, [], [], 0, [], 0⟩ s _ _ ⟨rfl, hr'⟩ ha).2,
    fun env input req reds errs => (push_ts_eq P K 0 ⟨_, arr, s.sp, env, input, req, reds, errs⟩ s _ _ ⟨rfl, hr'⟩ ha).1⟩

/-- One iteration of the loop, by the same forward walk through the text as in `C08b.step_eq`.  The
    entry that is pushed is allocated at `heap.length` (`push_fresh`); that the array of references
    still reads as the model's stack after an allocation or an update of the `model` object is
    `SymsKept`, the frame condition for the heap. -/
theorem step_ts_eq {V : Type} (P : Params V) (K : Consts V) (fuel : Nat) (μ : Nat) (c : ACfg V) (m : M V)
    (h : Rel P.eofVal μ c m) :
    StepRel P.eofVal μ c m (execIter P K (extP P K) fuel (loopOf Gen.Ts.parser.body) m) (astep P c) := by
  obtain ⟨heap, arr, sp, env, input, req, reds, errs⟩ := m
  obtain ⟨⟨hsp, hr⟩, henv, hmodel, hinput, hreq, hreds⟩ := h
  simp only at hsp hr henv hmodel hinput hreq hreds
  subst hsp henv hinput hreq hreds
  have hlen := readArr_length _ _ _ hr
  unfold execIter astep
  simp only [Gen.Ts.parser, loopOf, parserEnv]
  by_cases h0 : c.stack.sp = 0
  · ts_simp [h0, StepRel]
  by_cases h1 : c.stack.sp > c.stack.a.length
  · ts_simp [h0, h1, hlen, StepRel]
  have hsp : (c.stack.sp : Int) - 1 = ((c.stack.sp - 1 : Nat) : Int) := by omega
  have hlt : c.stack.sp - 1 < c.stack.a.length := by omega
  obtain ⟨ta, hta, htc⟩ := readArr_get _ _ _ hr _ _ (List.getElem?_eq_getElem hlt)
  simp only [cellOf] at htc
  ts_simp [h0, h1, hlen, hsp, hlt, List.getElem?_eq_getElem hlt, AStack.top?, hta, htc]
  cases hL : P.L c.stack.a[c.stack.sp - 1].st (alook P.eofVal c).1 with
  | none => ts_simp [StepRel]
  | some a =>
    by_cases he : a = P.errC
    · ts_simp [he, StepRel]
    by_cases hac : a = P.accC
    · subst hac
      ts_simp [he, htc, StepRel]
    have hM : ∀ l, (heap ++ l)[μ]? = some (.model (alook P.eofVal c).2) := fun l => getElem?_append_some heap l μ _ hmodel
    by_cases hpos : 0 < a
    · obtain ⟨arr', sp', hrel, hpush⟩ :=
        push_fresh P K heap arr c.stack hr a (alook P.eofVal c).1 (alook P.eofVal c).2 (Int.le_of_lt hpos)
      ts_simp [he, hac, hpos, List.getElem?_concat_length, set_concat, hM, extP_push, hpush, extP_fetch, fetch_eq, StepRel]
      exact ⟨⟨hrel.1, (SymsKept.set_model _ μ _ _ (hM _)).readArr _ _ hrel.2⟩, rfl,
        List.getElem?_set_self (List.getElem?_eq_some_iff.mp (hM _)).1,
        rfl, rfl, rfl⟩
    ts_simp [he, hac, hpos, Int.neg_neg_iff_pos, List.getElem?_concat_length, set_concat, extP_reduce, invoke,
      Gen.Ts.reduceFrame, hsp]
    cases hrule : P.rule (-a).toNat with
    | none => ts_simp [List.getElem?_concat_length, hsp, hta, getElem?_append_some _ _ _ _ htc, Int.reduceLE, StepRel]
    | some ln =>
      obtain ⟨lhs, n⟩ := ln
      by_cases hn : n ≤ c.stack.sp - 1
      · have hk : (c.stack.sp : Int) - (((c.stack.sp - 1 : Nat) : Int) - (n : Int)) = (n : Int) + 1 := by omega
        have hk2 : ((n : Int) + 1).toNat = n + 1 := by omega
        have hsub : (c.stack.sp : Int) - (n : Int) = ((c.stack.sp - n : Nat) : Int) := by omega
        have hsp2 : ((c.stack.sp - n : Nat) : Int) - 1 = ((c.stack.sp - n - 1 : Nat) : Int) := by omega
        have hlt2 : c.stack.sp - n - 1 < c.stack.a.length := by omega
        obtain ⟨ua, hua, huc⟩ := readArr_get _ _ _ hr _ _ (List.getElem?_eq_getElem hlt2)
        simp only [cellOf] at huc
        ts_simp [hn, Int.sub_nonneg, hlen, Nat.le_of_not_gt h1, hk, hk2, Int.le_refl, Int.toNat_sub,
          cellVals_dollar _ _ _ _ ((SymsKept.append heap _).readArr _ _ hr), extPop_pop, pop_run, hsub, hsp2, hlt2, hua,
          getElem?_append_some _ _ _ _ huc, List.getElem?_concat_length, AStack.pop, List.getElem?_eq_getElem hlt2]
        cases hg : P.L c.stack.a[c.stack.sp - n - 1].st lhs with
        | none => ts_simp [StepRel]
        | some g =>
          by_cases hg0 : g < 0
          · ts_simp [hg0, List.getElem?_concat_length, Int.not_le.mpr hg0, StepRel]
          obtain ⟨arr', sp', hrel, hpush⟩ := push_fresh P K heap arr ⟨c.stack.a, c.stack.sp - n⟩ hr g lhs
            (P.sem (-a).toNat (((c.stack.dollar n).drop 1).map Entry.val)) (Int.not_lt.mp hg0)
          ts_simp [hg0, List.getElem?_concat_length, Int.not_lt.mp hg0, set_concat, extP_push, hpush, StepRel]
          exact ⟨hrel, rfl, hM _, rfl, rfl, rfl⟩
      · ts_simp [hn, Int.sub_nonneg, StepRel]

/-- `StepRel` read from the side of the hand model: what the iteration of the text is, for each
    result of `astep` -/
theorem StepRel.inv {V : Type} {eofVal : V} {μ : Nat} {c : ACfg V} {m : M V} {r : Res V} {a : AStepR V} :
    StepRel eofVal μ c m r a →
    match a with
    | .next c' => ∃ m', r = .norm m' ∧ Rel eofVal μ c' m' ∧ m'.errs = m.errs
    | .acc v c' => r = .ret (.val v) m ∧ c' = c
    | .err c' => r = .brk { m with errs := m.errs + 1 } ∧ c' = c
    | .nil => r = .brk m
    | .crash => r = .crash := by
  intro h
  cases a <;> cases r <;> first | exact h.elim | skip
  · exact ⟨_, rfl, h⟩
  · obtain ⟨rfl, rfl, rfl⟩ := h; exact ⟨rfl, rfl⟩
  · obtain ⟨rfl, rfl⟩ := h; exact ⟨rfl, rfl⟩
  · rfl
  · exact congrArg _ h

/-- how the loop ends against how `arun` ends (`e0` = `console.error` calls before the loop, `cl` =
    configuration at the head of the last iteration) -/
def LoopRel {V : Type} (eofVal : V) (μ : Nat) (e0 : Nat) (cl : ACfg V) (r : Res V) : AOutcome V → Prop
  | .accept v c' => ∃ m', r = .ret (.val v) m' ∧ Rel eofVal μ c' m' ∧ m'.errs = e0
  | .syntaxError c' => ∃ m', r = .norm m' ∧ Rel eofVal μ c' m' ∧ m'.errs = e0 + 1
  | .nil => ∃ m', r = .norm m' ∧ Rel eofVal μ cl m' ∧ m'.errs = e0
  | .crash => r = .crash
  | .outOfFuel => r = .outOfFuel

theorem iterate_arun {V : Type} (P : Params V) (μ : Nat) (iter : M V → Res V)
    (hstep : ∀ c m, Rel P.eofVal μ c m → StepRel P.eofVal μ c m (iter m) (astep P c)) :
    ∀ (fuel : Nat) (c : ACfg V) (m : M V), Rel P.eofVal μ c m →
      LoopRel P.eofVal μ m.errs (alast P fuel c) (iterate iter fuel m) (arun P fuel c)
  | 0, _, _, _ => rfl
  | fuel + 1, c, m, h => by
    have hs := hstep c m h
    unfold iterate arun alast
    generalize astep P c = a at hs ⊢
    cases a with
    | next c' =>
      obtain ⟨m', hI, hr, he⟩ := hs.inv
      rw [hI, ← he]
      exact iterate_arun P μ iter hstep fuel c' m' hr
    | acc v c' =>
      obtain ⟨hI, rfl⟩ := hs.inv
      rw [hI]
      exact ⟨m, rfl, h, rfl⟩
    | err c' =>
      obtain ⟨hI, rfl⟩ := hs.inv
      rw [hI]
      exact ⟨_, rfl, ⟨h.stack, h.env, h.model, h.input, h.req, h.reds⟩, rfl⟩
    | crash =>
      rw [show iter m = .crash from hs.inv]
      rfl
    | nil =>
      rw [show iter m = .brk m from hs.inv]
      exact ⟨m, rfl, h, rfl⟩

theorem exec_loop {V : Type} (P : Params V) (K : Consts V) (X : Ext V) (fuel : Nat) (m : M V) (body : List Gen.Ts.Stmt) :
    exec P K X fuel m (.loop body) = iterate (execIter P K X fuel body) fuel m := by
  simp only [exec]; rfl

/-- the part of the machine state the caller of `Parser` sees afterwards, against the final
    configuration `c` of the hand model (`m0` = the state in which `Parser` was called) -/
structure Final {V : Type} (m0 : M V) (c : ACfg V) (m : M V) : Prop where
  stack : StackRel m c.stack
  env : m.env = m0.env
  input : m.input = c.rest.tail
  req : m.req = c.req
  reds : m.reds = c.reds

/-- what `Parser` returns against how `arun` ends: `state.ValType`; `null` after ONE more
    `console.error`; a TypeError; `null` without a message (the two guards) -/
def OutRel {V : Type} (m0 : M V) (cl : ACfg V) (r : Res V) : AOutcome V → Prop
  | .accept v c' => ∃ m', r = .ret (.val v) m' ∧ Final m0 c' m' ∧ m'.errs = m0.errs
  | .syntaxError c' => ∃ m', r = .ret .null m' ∧ Final m0 c' m' ∧ m'.errs = m0.errs + 1
  | .crash => r = .crash
  | .outOfFuel => r = .outOfFuel
  | .nil => ∃ m', r = .ret .null m' ∧ Final m0 cl m' ∧ m'.errs = m0.errs

/-- the caller of `Parser` gets his own variables back -/
theorem Rel.final {V : Type} {eofVal : V} {μ : Nat} {c : ACfg V} {m : M V} (h : Rel eofVal μ c m) (m0 : M V) :
    Final m0 c { m with env := m0.env } :=
  ⟨h.stack, rfl, h.input, h.req, h.reds⟩

/-- the configuration of the hand model after the first `fetchLookAhead` of a call of `Parser` in
    the machine state `m0` whose stack is `s` (`ainit s w` when nothing was requested or reduced yet) -/
def startCfg {V : Type} (m0 : M V) (s : AStack V) (t : List Ev) : ACfg V :=
  { stack := s, rest := m0.input, reds := m0.reds, req := m0.req + 1, trace := t }

theorem parser_ts_run {V : Type} (P : Params V) (K : Consts V) (fuel : Nat) (m0 : M V) (s : AStack V) (t : List Ev)
    (hs : StackRel m0 s) :
    OutRel m0 (alast P fuel (startCfg m0 s t))
      (invoke P K (extP P K) fuel Gen.Ts.parser [.str] m0) (arun P fuel (startCfg m0 s t)) := by
  obtain ⟨heap, arr, sp, env, input, req, reds, errs⟩ := m0
  obtain ⟨hsp, hr⟩ := hs
  simp only at hsp hr
  subst hsp
  have key := iterate_arun P heap.length (execIter P K (extP P K) fuel (loopOf Gen.Ts.parser.body))
    (step_ts_eq P K fuel heap.length) fuel (startCfg ⟨heap, arr, (s.sp : Int), env, input, req, reds, errs⟩ s t)
    { heap := heap ++ [.model (headTok P.eofVal input).2], arr := arr, sp := (s.sp : Int),
      env := parserEnv (headTok P.eofVal input).1 heap.length, input := input.tail, req := req + 1, reds := reds,
      errs := errs }
    ⟨⟨rfl, (SymsKept.append heap _).readArr _ _ hr⟩, rfl, List.getElem?_concat_length .., rfl, rfl, rfl⟩
  simp only [loopOf, Gen.Ts.parser, parserEnv] at key
  unfold invoke
  simp only [Gen.Ts.parser]
  ts_simp [List.getElem?_concat_length, set_concat, extP_fetch, fetch_eq, ↓exec_loop]
  revert key
  generalize alast P fuel _ = cl
  cases arun P fuel _ with
  | accept v c' | syntaxError c' | nil =>
    rintro ⟨m', hI, h2, h3⟩
    ts_simp [hI, OutRel]
    exact ⟨_, rfl, h2.final _, h3⟩
  | crash | outOfFuel =>
    intro (hI : iterate _ _ _ = _)
    ts_simp [hI, OutRel]

/-- `Parser` called in a state whose stack is `s`, with input `w`, nothing requested or reduced
    yet: the whole text (declarations, `model` object, first `fetchLookAhead`, the loop,
    `return null`) is `arun P fuel (ainit s w)`, for every fuel and every outcome class -/
theorem parser_ts_eq {V : Type} (P : Params V) (K : Consts V) (fuel : Nat) (m0 : M V) (s : AStack V)
    (w : List (Sym × V)) (hs : StackRel m0 s) (hin : m0.input = w) (hreq : m0.req = 0) (hreds : m0.reds = []) :
    OutRel m0 (alast P fuel (ainit s w))
      (invoke P K (extP P K) fuel Gen.Ts.parser [.str] m0) (arun P fuel (ainit s w)) := by
  have h := parser_ts_run P K fuel m0 s [] hs
  have e : startCfg m0 s [] = ainit s w := by
    simp only [startCfg, ainit, hin, hreq, hreds]
  rw [e] at h
  exact h

/-- the statements at the end of the generated module (`initialize();`) put the machine in the
    initial state of the hand model, whatever the state before -/
theorem load_ts_eq {V : Type} (P : Params V) (K : Consts V) (fuel : Nat) (m : M V) :
    execs P K (extP P K) fuel m Gen.Ts.moduleTail
      = .norm { m with heap := m.heap ++ [.sym 0 1 K.undefV], arr := [m.heap.length], sp := 1 } ∧
    StackRel { m with heap := m.heap ++ [.sym 0 1 K.undefV], arr := [m.heap.length], sp := 1 } (initGlobal K.undefV) := by
  refine ⟨?_, (init_ts_eq P K 0 m).2⟩
  simp only [Gen.Ts.moduleTail]
  ts_simp [extP_init, (init_ts_eq P K 0 _).1]

/-- `Parser` called right after `initialize()`: the run of the array model from `initGlobal`,
    hence (`C08_global`) the run of the list driver `Y.D.run` from `Y.D.init`; the `return null`
    exit without a message is never taken -/
theorem parser_ts_init {V : Type} (P : Params V) (K : Consts V) (fuel : Nat) (m0 : M V) (w : List (Sym × V))
    (hs : StackRel m0 (initGlobal K.undefV)) (hin : m0.input = w) (hreq : m0.req = 0) (hreds : m0.reds = []) :
    OutRel m0 (alast P fuel (ainit (initGlobal K.undefV) w))
      (invoke P K (extP P K) fuel Gen.Ts.parser [.str] m0) (arun P fuel (ainit (initGlobal K.undefV) w)) ∧
    absOutcome (arun P fuel (ainit (initGlobal K.undefV) w)) = some (D.run P fuel (D.init K.undefV w)) ∧
    arun P fuel (ainit (initGlobal K.undefV) w) ≠ .nil :=
  ⟨parser_ts_eq P K fuel m0 _ w hs hin hreq hreds,
    arun_of_bottom P _ w fuel K.undefV (inv_initGlobal K.undefV) (abs_initGlobal K.undefV)⟩

/-! `Parser` does not call `initialize()`; the only call is the one at the end of the module.  So a
second call starts from the array and pointer the first call left (after an accept: the bottom
entry and the entry of the start symbol, pointer 2; after a syntax error: whatever was on the
stack), not from `[(0,1)]`.  (The Go global template is the same: `ParserInit` is called from
`init()` and, in the http variant, from `ParserFun`, not from `Parser`.) -/

/-- the caller hands a new input to `Parser`; the ghost counters restart -/
def recall {V : Type} (m : M V) (w : List (Sym × V)) : M V := { m with input := w, req := 0, reds := [] }

/-- whatever final configuration `c1` the first call ended in (`Final`), the second call is the run
    of the hand model from `c1.stack` -/
theorem parser_ts_second {V : Type} (P : Params V) (K : Consts V) (fuel : Nat) (m0 m1 : M V) (c1 : ACfg V)
    (w2 : List (Sym × V)) (h1 : Final m0 c1 m1) :
    OutRel (recall m1 w2) (alast P fuel (ainit c1.stack w2))
      (invoke P K (extP P K) fuel Gen.Ts.parser [.str] (recall m1 w2)) (arun P fuel (ainit c1.stack w2)) :=
  parser_ts_eq P K fuel (recall m1 w2) c1.stack w2 h1.stack rfl rfl rfl

/-- … unless the caller runs `initialize()` in between -/
theorem parser_ts_reinit {V : Type} (P : Params V) (K : Consts V) (fuel : Nat) (m1 : M V) (w2 : List (Sym × V)) :
    ∃ m2, invoke P K ext0 0 Gen.Ts.initialize [] (recall m1 w2) = .norm m2 ∧
      OutRel m2 (alast P fuel (ainit (initGlobal K.undefV) w2))
        (invoke P K (extP P K) fuel Gen.Ts.parser [.str] m2) (arun P fuel (ainit (initGlobal K.undefV) w2)) := by
  obtain ⟨e, hs⟩ := init_ts_eq P K 0 (recall m1 w2)
  exact ⟨_, e, parser_ts_eq P K fuel _ _ w2 hs rfl rfl rfl⟩

/-- every stack of the hand model is the stack of some machine state (one cell per slot) -/
theorem stackRel_total {V : Type} (s : AStack V) :
    ∃ m : M V, StackRel m s :=
  ⟨{ heap := s.a.map cellOf, arr := List.range s.a.length, sp := (s.sp : Int), env := [], input := [], req := 0,
     reds := [], errs := 0 }, rfl, by
    apply List.ext_getElem?
    intro i
    rcases Nat.lt_or_ge i s.a.length with hi | hi <;> simp [readArr, cells, hi]⟩

def K0 : Consts Nat := { undefV := 0, emptyV := 0 }

/-- the module's variables before `initialize();` runs: `StateSymStack = []`, `StackPointer = 0` -/
def m00 (w : List (Sym × Nat)) : M Nat :=
  { heap := [], arr := [], sp := 0, env := [], input := w, req := 0, reds := [], errs := 0 }

def stateOf : Res Nat → M Nat
  | .norm m => m
  | .brk m => m
  | .ret _ m => m
  | _ => m00 []

/-- kind (0 value, 1 `null`, 2 crash, 3 out of fuel, 4 other), value, `console.error` calls, pointer, array length -/
def verdictTs : Res Nat → Nat × Option Nat × Nat × Int × Nat
  | .ret (.val v) m => (0, some v, m.errs, m.sp, m.arr.length)
  | .ret .null m => (1, none, m.errs, m.sp, m.arr.length)
  | .crash => (2, none, 0, 0, 0)
  | .outOfFuel => (3, none, 0, 0, 0)
  | _ => (4, none, 0, 0, 0)

open Y.Props in
/-- module load, then `Parser("a")` -/
def run1 : Res Nat :=
  invoke tinyP K0 (extP tinyP K0) 10 Gen.Ts.parser [.str]
    (stateOf (execs tinyP K0 (extP tinyP K0) 10 (m00 [(3, 7)]) Gen.Ts.moduleTail))

/-- the first call accepts with value 107 and leaves pointer 2 -/
theorem run1_accepts : verdictTs run1 = (0, some 107, 0, 2, 2) := by decide +kernel

open Y.Props in
/-- the SAME input again: the loop starts in the accept state with lookahead `a`: "Grammer error", `null` -/
def run2 : Res Nat :=
  invoke tinyP K0 (extP tinyP K0) 10 Gen.Ts.parser [.str] (recall (stateOf run1) [(3, 7)])

theorem run2_rejects : verdictTs run2 = (1, none, 1, 2, 2) := by decide +kernel

open Y.Props in
/-- with `initialize()` in between it is accepted again -/
def run3 : Res Nat :=
  invoke tinyP K0 (extP tinyP K0) 10 Gen.Ts.parser [.str]
    (stateOf (invoke tinyP K0 ext0 0 Gen.Ts.initialize [] (recall (stateOf run1) [(3, 7)])))

theorem run3_accepts : verdictTs run3 = (0, some 107, 0, 2, 2) := by decide +kernel

open Y.Props in
/-- a syntax error (`a a`), a crash (symbol 5 has no table column), out of fuel -/
def runOn (fuel : Nat) (w : List (Sym × Nat)) : Res Nat :=
  invoke tinyP K0 (extP tinyP K0) fuel Gen.Ts.parser [.str]
    (stateOf (execs tinyP K0 (extP tinyP K0) 10 (m00 w) Gen.Ts.moduleTail))

example : verdictTs (runOn 10 [(3, 7), (3, 8)]) = (1, none, 1, 2, 2) := by decide +kernel
example : verdictTs (runOn 10 [(5, 7)]) = (2, none, 0, 0, 0) := by decide +kernel
example : verdictTs (runOn 2 [(3, 7)]) = (3, none, 0, 0, 0) := by decide +kernel

/-- the guards are live in the text: without `initialize()` (`StackPointer = 0`) `Parser` returns
    `null` and prints nothing -/
example : verdictTs (invoke Y.Props.tinyP K0 (extP Y.Props.tinyP K0) 10 Gen.Ts.parser [.str] (m00 [(3, 7)]))
    = (1, none, 0, 0, 0) := by decide +kernel

/-- references: after the run the two live slots refer to two different cells, and the cell of the
    reduced entry was allocated by `ReduceFunc` AFTER the shifted entry's (addresses 0, 3; 1 is
    `model`, 2 the shifted `a`) -/
example : (stateOf run1).arr = [0, 3] ∧ (stateOf run1).heap.length = 4 := by decide +kernel

#print axioms push_ts_eq
#print axioms pop_ts_eq
#print axioms pop_ts_neg
#print axioms init_ts_eq
#print axioms load_ts_eq
#print axioms step_ts_eq
#print axioms parser_ts_run
#print axioms parser_ts_eq
#print axioms parser_ts_init
#print axioms parser_ts_second
#print axioms parser_ts_reinit
#print axioms stackRel_unique
#print axioms stackRel_total
#print axioms run1_accepts
#print axioms run2_rejects
#print axioms run3_accepts

end C08c
