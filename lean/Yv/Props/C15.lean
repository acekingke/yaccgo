import Yv.Props.C08
/-! # C15 — re-initialisation and several parser contexts

`ParserInit` of the Go global template / `initialize` of the TypeScript template discards the prior
array and pointer, whatever they were.  `ParserInit` of the Go context template APPENDS the bottom
entry and resets the pointer to 1: on a context whose array is empty or still has the bottom entry
at index 0 (`BottomIntact`) the following run is — under `absCfg` — the run of a fresh context,
the stale entries above the pointer being overwritten before they are read.  `BottomIntact` is an
invariant of the loop (index 0 is never written once `sp ≥ 1`), so it holds after any number of
earlier parses on the same context, whether they ended by accept, syntax error, crash or were cut
off.  A system of `k` contexts stepped by an arbitrary interleaving projects on every context to
that context's solo run. -/
namespace Y.Props
open Y Y.D Y.AD

theorem C15_reinit_global {V : Type} (P : Params V) (σ : AStack V) (w : List (Sym × V))
    (fuel : Nat) (bv : V) :
    arun P fuel (ainit (reinitGlobal σ bv) w) = arun P fuel (ainit (initGlobal bv) w) ∧
    absOutcome (arun P fuel (ainit (reinitGlobal σ bv) w)) = some (D.run P fuel (D.init bv w)) :=
  ⟨rfl, C08_global P w fuel bv⟩

/-- the run after `ParserInit` on a used context whose bottom slot is intact is the list driver's
    run from the pristine state -/
theorem C15_reinit_ctx_run {V : Type} (P : Params V) (σ : AStack V) (w : List (Sym × V))
    (fuel : Nat) (bv : V) (h : BottomIntact σ bv) :
    absOutcome (arun P fuel (ainit (initCtx σ bv) w)) = some (D.run P fuel (D.init bv w)) :=
  (arun_of_bottom P _ w fuel bv (inv_initCtx σ bv) (abs_initCtx σ bv h)).1

theorem C15_reinit_ctx {V : Type} (P : Params V) (σ : AStack V) (w : List (Sym × V))
    (fuel : Nat) (bv : V) (h : BottomIntact σ bv) :
    absOutcome (arun P fuel (ainit (initCtx σ bv) w)) =
      absOutcome (arun P fuel (ainit (initCtx emptyStack bv) w)) ∧
    absOutcome (arun P fuel (ainit (initCtx σ bv) w)) = some (D.run P fuel (D.init bv w)) ∧
    arun P fuel (ainit (initCtx σ bv) w) ≠ .nil := by
  refine ⟨?_, arun_of_bottom P _ w fuel bv (inv_initCtx σ bv) (abs_initCtx σ bv h)⟩
  rw [C15_reinit_ctx_run P σ w fuel bv h, C15_reinit_ctx_run P emptyStack w fuel bv (Or.inl rfl)]

theorem bottomIntact_preserved {V : Type} (P : Params V) (c c' : ACfg V) (bv : V) (hG : Good c)
    (hB : BottomIntact c.stack bv) (h : astep P c = .next c') :
    Good c' ∧ BottomIntact c'.stack bv := by
  refine ⟨astep_good P c c' hG h, ?_⟩
  rcases hB with hB | hB
  · have hI := hG.1
    rw [AStack.Inv, hB] at hI
    exact absurd hG.2 (by simp at hI; omega)
  · exact .inr (by rw [astep_get_zero P c c' hG h]; exact hB)

theorem bottomIntact_alast {V : Type} (P : Params V) (fuel : Nat) (c : ACfg V) (bv : V) (hG : Good c)
    (hB : BottomIntact c.stack bv) :
    Good (alast P fuel c) ∧ BottomIntact (alast P fuel c).stack bv := by
  induction fuel generalizing c with
  | zero => exact ⟨hG, hB⟩
  | succ k ih =>
    simp only [alast]
    cases hs : astep P c with
    | next c' =>
      obtain ⟨hG', hB'⟩ := bottomIntact_preserved P c c' bv hG hB hs
      exact ih c' hG' hB'
    | acc v c' | err c' | crash | nil => exact ⟨hG, hB⟩

/-- the array of a context after a sequence of parses `(input, number of iterations)`, each started
    by `ParserInit`, beginning with a new context.  (A crash inside `ReduceFunc` leaves the pointer
    popped; `initCtx` does not look at the pointer, and `PopStateSym` does not touch the array.) -/
def ctxAfter {V : Type} (P : Params V) (bv : V) (jobs : List (List (Sym × V) × Nat)) : AStack V :=
  jobs.foldl (fun σ j => (alast P j.2 (ainit (initCtx σ bv) j.1)).stack) emptyStack

theorem bottomIntact_after_parses {V : Type} (P : Params V) (bv : V)
    (jobs : List (List (Sym × V) × Nat)) : BottomIntact (ctxAfter P bv jobs) bv :=
  List.foldlRecOn (motive := (BottomIntact · bv)) _ _ (.inl rfl) fun σ h j _ =>
    (bottomIntact_alast P j.2 _ bv ⟨inv_initCtx σ bv, Nat.le_refl 1⟩ (.inr (initCtx_zero σ bv h))).2

/-- a context can be reused after any number of earlier parses, successful or failed -/
theorem C15_reinit_ctx_after_parses {V : Type} (P : Params V) (bv : V)
    (jobs : List (List (Sym × V) × Nat)) (w : List (Sym × V)) (fuel : Nat) :
    absOutcome (arun P fuel (ainit (initCtx (ctxAfter P bv jobs) bv) w)) =
      some (D.run P fuel (D.init bv w)) :=
  C15_reinit_ctx_run P _ w fuel bv (bottomIntact_after_parses P bv jobs)

theorem soloSteps_done {V : Type} (P : Params V) (n : Nat) (o : AOutcome V) :
    soloSteps P n (.done o) = .done o := by
  induction n with
  | zero => rfl
  | succ k ih => simp only [soloSteps, ctxStep]; exact ih

/-- `soloSteps` is `arun` with the state of the loop kept -/
theorem soloSteps_outcome {V : Type} (P : Params V) (n : Nat) (c : ACfg V) :
    (soloSteps P n (.running c)).outcome = arun P n c := by
  induction n generalizing c with
  | zero => rfl
  | succ k ih =>
    simp only [soloSteps, ctxStep, arun]
    cases hs : astep P c with
    | next c' => exact ih c'
    | acc v c' | err c' | crash | nil => simp only [soloSteps_done]; rfl

theorem sysStep_self {V : Type} {k : Nat} (P : Params V) (S : Fin k → CtxSt V) (i : Fin k) :
    sysStep P S i i = ctxStep P (S i) := by simp [sysStep]

theorem sysStep_other {V : Type} {k : Nat} (P : Params V) (S : Fin k → CtxSt V) (i j : Fin k)
    (h : j ≠ i) : sysStep P S i j = S j := by simp [sysStep, h]

/-- under any schedule, context `i` ends where its solo run ends after as many iterations as the
    schedule gives it -/
theorem C15_contexts {V : Type} {k : Nat} (P : Params V) (S : Fin k → CtxSt V)
    (sched : List (Fin k)) (i : Fin k) :
    sysRun P S sched i = soloSteps P (sched.count i) (S i) := by
  induction sched generalizing S with
  | nil => rfl
  | cons j js ih =>
    simp only [sysRun]
    rw [ih, List.count_cons]
    by_cases h : j = i
    · subst h
      simp only [beq_self_eq_true, if_true, sysStep_self]
      rfl
    · have h' : (j == i) = false := by simpa using h
      simp only [h', Bool.false_eq_true, if_false, Nat.add_zero]
      rw [sysStep_other P S j i (fun e => h e.symm)]

/-- … so every initialised context of the system reports what the list driver reports on its own
    input, independently of the other contexts and of the schedule -/
theorem C15_contexts_run {V : Type} {k : Nat} (P : Params V) (σ : Fin k → AStack V)
    (w : Fin k → List (Sym × V)) (bv : V) (hσ : ∀ i, BottomIntact (σ i) bv)
    (sched : List (Fin k)) (i : Fin k) :
    absOutcome (sysRun P (fun j => .running (ainit (initCtx (σ j) bv) (w j))) sched i).outcome =
      some (D.run P (sched.count i) (D.init bv (w i))) := by
  rw [C15_contexts, soloSteps_outcome]
  exact C15_reinit_ctx_run P (σ i) (w i) _ bv (hσ i)

/-- a used context: stale entries above the pointer, bottom intact -/
def usedStack : AStack Nat := ⟨[bottom 0, ⟨9, 9, 9⟩, ⟨8, 8, 8⟩, ⟨7, 7, 7⟩], 3⟩

example : BottomIntact usedStack 0 := Or.inr rfl

/-- `ParserInit` of the context template grows the array by one each time -/
example : (initCtx usedStack 0).a.length = 5 ∧ (initCtx usedStack 0).sp = 1 := by decide +kernel

example : verdict (arun tinyP 10 (ainit (initCtx usedStack 0) [(3, 7)])) =
    (0, some 107, [1], 2, [.shift 2 2, .reduce 1 1 2, .shift 3 1]) := by decide +kernel

/-- the hypothesis of `C15_reinit_ctx` is needed: with a foreign entry at index 0 (state 1 instead
    of state 0) the same input is rejected -/
def brokenStack : AStack Nat := ⟨[⟨1, 3, 0⟩], 1⟩

example : verdict (arun tinyP 10 (ainit (initCtx brokenStack 0) [(3, 7)])) =
    (1, none, [], 1, []) := by decide +kernel

/-- the context's array after an accepted parse, a syntax error and a crash: three bottoms appended,
    slot 0 intact -/
example : ((ctxAfter tinyP 0 [([(3, 7)], 10), ([(3, 7), (3, 8)], 10), ([(5, 1)], 10)]).a.map
    (fun e => (e.st, e.sym))) = [(0, 1), (1, 3), (0, 1), (0, 1)] := by decide +kernel

/-- two contexts, interleaved: each accepts its own input with its own value -/
def twoCtx : Fin 2 → CtxSt Nat
  | ⟨0, _⟩ => .running (ainit (initCtx emptyStack 0) [(3, 7)])
  | ⟨_ + 1, _⟩ => .running (ainit (initCtx usedStack 0) [(3, 40)])

example : verdict (sysRun tinyP twoCtx [0, 1, 1, 0, 0, 1, 0, 1] 0).outcome =
    (0, some 107, [1], 2, [.shift 2 2, .reduce 1 1 2, .shift 3 1]) := by decide +kernel

example : verdict (sysRun tinyP twoCtx [0, 1, 1, 0, 0, 1, 0, 1] 1).outcome =
    (0, some 140, [1], 2, [.shift 2 2, .reduce 1 1 2, .shift 3 1]) := by decide +kernel

end Y.Props
