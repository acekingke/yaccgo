import Yv.Proofs.ArrRefine
/-! # C08 — the three emitted drivers (Go global state, Go context object, TypeScript) agree

The three templates are copies of one loop over "growable array + stack pointer".  They differ in
`ParserInit`: the Go global template and the TypeScript template assign a fresh one-element array
(`initGlobal`), the Go context template appends the bottom entry to the context's array and resets
the pointer (`initCtx`), which on a new context (`emptyStack`) gives the same array.

`C08_equiv`: for all driver parameters (table lookup, action constants, rule data, semantic
actions), every token sequence, every fuel and every bottom value, the run from `initGlobal` and
the run from `initCtx emptyStack` are the same, and both are — under the abstraction `absCfg`
(live part of the array, top first) — the run of the list driver `Y.D.run` from `Y.D.init`: same
verdict, same value, same reductions, same number of tokens requested, same trace, same remaining
input.  The `return nil` exit of the loop (`sp == 0`, `sp > len`) is never taken. -/
namespace Y.Props
open Y Y.D Y.AD

theorem absCfg_initGlobal {V : Type} (bv : V) (w : List (Sym × V)) :
    absCfg (ainit (initGlobal bv) w) = D.init bv w := rfl

/-- the run from `ParserInit` of the global / TypeScript template is the list driver's run -/
theorem C08_global {V : Type} (P : Params V) (w : List (Sym × V)) (fuel : Nat) (bv : V) :
    absOutcome (arun P fuel (ainit (initGlobal bv) w)) = some (D.run P fuel (D.init bv w)) :=
  (arun_of_bottom P _ w fuel bv (inv_initGlobal bv) (abs_initGlobal bv)).1

theorem C08_equiv {V : Type} (P : Params V) (w : List (Sym × V)) (fuel : Nat) (bv : V) :
    -- Go global form = TypeScript form  vs.  Go context form on a new context: identical runs
    arun P fuel (ainit (initGlobal bv) w) = arun P fuel (ainit (initCtx emptyStack bv) w) ∧
    -- and both are the list driver's run
    absOutcome (arun P fuel (ainit (initGlobal bv) w)) = some (D.run P fuel (D.init bv w)) ∧
    absOutcome (arun P fuel (ainit (initCtx emptyStack bv) w)) = some (D.run P fuel (D.init bv w)) ∧
    -- the `return nil` exit is dead
    arun P fuel (ainit (initGlobal bv) w) ≠ .nil :=
  ⟨rfl, C08_global P w fuel bv, C08_global P w fuel bv,
    (arun_of_bottom P _ w fuel bv (inv_initGlobal bv) (abs_initGlobal bv)).2⟩

/-! Grammar `S → a` (rule 1: lhs 2, |rhs| = 1), end marker 1, token `a` = 3.
State 0: shift `a` to 1, goto `S` 2.  State 1: reduce 1 on `$`.  State 2: accept on `$`. -/

def tinyL : Nat → Nat → Option Int
  | 0, 3 => some 1
  | 0, 2 => some 2
  | 0, 1 => some 1000
  | 1, 1 => some (-1)
  | 1, 3 => some 1000
  | 2, 1 => some 2000
  | 2, 3 => some 1000
  | _, _ => none

def tinyP : Params Nat :=
  { L := tinyL, errC := 1000, accC := 2000,
    rule := fun r => if r = 1 then some (2, 1) else none,
    sem := fun _ vs => vs.foldl (· + ·) 100, eofVal := 0 }

def verdict {V : Type} : AOutcome V → Nat × Option V × List Nat × Nat × List Ev
  | .accept v c => (0, some v, c.reds, c.req, c.trace)
  | .syntaxError c => (1, none, c.reds, c.req, c.trace)
  | .crash => (2, none, [], 0, [])
  | .outOfFuel => (3, none, [], 0, [])
  | .nil => (4, none, [], 0, [])

/-- accepted: value 100 + 7, one reduction by rule 1, two tokens requested -/
example : verdict (arun tinyP 10 (ainit (initGlobal 0) [(3, 7)])) =
    (0, some 107, [1], 2, [.shift 2 2, .reduce 1 1 2, .shift 3 1]) := by decide +kernel

example : verdict (arun tinyP 10 (ainit (initCtx emptyStack 0) [(3, 7)])) =
    (0, some 107, [1], 2, [.shift 2 2, .reduce 1 1 2, .shift 3 1]) := by decide +kernel

/-- a syntax error (`a a`): reported after the second token was requested -/
example : verdict (arun tinyP 10 (ainit (initGlobal 0) [(3, 7), (3, 8)])) =
    (1, none, [], 2, [.shift 3 1]) := by decide +kernel

/-- the guards are not vacuous in the model: an uninitialised context leaves by `nil` -/
example : verdict (arun tinyP 10 (ainit (emptyStack) [(3, 7)])) = (4, none, [], 0, []) := by decide +kernel

/-- a crash (symbol 5 has no table column) -/
example : verdict (arun tinyP 10 (ainit (initGlobal 0) [(5, 7)])) = (2, none, [], 0, []) := by decide +kernel

end Y.Props
