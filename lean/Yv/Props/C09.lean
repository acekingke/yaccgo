import Yv.Proofs.CanonFacts
import Yv.Props.C01
/-! # C09 — the automaton is the canonical LR(0) collection

The canonical collection is described declaratively (`Canon`): the closure of the augmented start
item, and the closure of every non-empty successor kernel of a canonical set.  For **every**
automaton (given as data) that passes the decidable certificate `certCanon`: its states are exactly
the canonical sets (each one once), state 0 is the start set, and there is a transition on `X` from
a state exactly when some item of it has `X` after the dot, leading to the state whose items are
the closure of the advanced items. -/
namespace Y.Props
open Y

/-- the canonical collection of LR(0) item sets (as predicates on items) -/
inductive Canon (G : Grammar) : (Item → Prop) → Prop
  | start : Canon G (Cl0 G (fun it => it = ⟨0, 0⟩))
  | step (S : Item → Prop) (X : Sym) : Canon G S → (∃ it, adv0 G X S it) →
      Canon G (Cl0 G (adv0 G X S))

/-- the closure of the successor kernel only depends on the extension of the set: the item list of a
    state may stand for any predicate with the same members (used to step `Canon` along an edge) -/
theorem Canon.ext_state {G : Grammar} {A : Auto} {S : Item → Prop} {q : Nat} {X : Sym}
    (hS : ∀ it, it ∈ A.its q ↔ S it) (it : Item) :
    Cl0 G (adv0 G X (fun x => x ∈ A.its q)) it ↔ Cl0 G (adv0 G X S) it :=
  Cl0_congr (fun x => adv0_congr hS x) it

/-- the executable closure agrees with the declarative one -/
theorem C09_closure (G : Grammar) (k l : List Item) (h : closureL G k = some l) :
    ∀ it, it ∈ l ↔ Cl0 G (fun x => x ∈ k) it := closureL_spec h

theorem C09_states_canonical {G : Grammar} {A : Auto} (ok : CanonOK G A) :
    ∀ q, q < A.n → ∃ S, Canon G S ∧ ∀ it, it ∈ A.its q ↔ S it := by
  intro q
  induction q using Nat.strongRecOn with
  | _ q ih =>
    intro hq
    by_cases h0 : q = 0
    · subst h0
      exact ⟨_, Canon.start, ok.s0⟩
    · obtain ⟨q', hlt, X, hm⟩ := ok.reach q hq h0
      have hq' : q' < A.n := Nat.lt_trans hlt hq
      obtain ⟨S, hS, hiff⟩ := ih q' hlt hq'
      obtain ⟨⟨jt, hj, hx⟩, _, hcl⟩ := ok.entry q' hq' X q hm
      obtain ⟨rl, hr, hx'⟩ := rhsOf_get.mp hx
      refine ⟨_, Canon.step S X hS ⟨⟨jt.r, jt.d + 1⟩, jt.r, jt.d, rl, rfl, hr, hx', (hiff _).mp hj⟩, ?_⟩
      intro it
      exact (hcl it).trans (Canon.ext_state hiff it)

theorem C09_canonical_states {G : Grammar} {A : Auto} (ok : CanonOK G A) :
    ∀ S, Canon G S → ∃ q, q < A.n ∧ ∀ it, it ∈ A.its q ↔ S it := by
  intro S h
  induction h with
  | start => exact ⟨0, ok.npos, ok.s0⟩
  | step S X _ hne ih =>
    obtain ⟨q, hq, hiff⟩ := ih
    obtain ⟨_, r, d, rl, _, hr, hx, hs⟩ := hne
    have hmem : (⟨r, d⟩ : Item) ∈ A.its q := (hiff _).mpr hs
    obtain ⟨⟨X', p⟩, he, hX⟩ := ok.gotoC q hq ⟨r, d⟩ hmem X (rhsOf_get.mpr ⟨rl, hr, hx⟩)
    simp only at hX
    subst hX
    obtain ⟨_, hp, hcl⟩ := ok.entry q hq X' p he
    exact ⟨p, hp, fun it => (hcl it).trans (Canon.ext_state hiff it)⟩

/-- **C09.** An automaton that passes `certCanon` is the canonical LR(0) collection. -/
theorem C09_canonical (G : Grammar) (A : Auto) (h : certCanon G A = true) :
    -- every state is a canonical set
    (∀ q, q < A.n → ∃ S, Canon G S ∧ ∀ it, it ∈ A.its q ↔ S it) ∧
    -- every canonical set is a state
    (∀ S, Canon G S → ∃ q, q < A.n ∧ ∀ it, it ∈ A.its q ↔ S it) ∧
    -- no duplicates
    (∀ q p, q < A.n → p < A.n → (∀ it, it ∈ A.its q ↔ it ∈ A.its p) → q = p) ∧
    -- state 0 is the start state
    (∀ it, it ∈ A.its 0 ↔ Cl0 G (fun x => x = ⟨0, 0⟩) it) ∧
    -- transitions: exactly on the symbols after a dot, to the closure of the advanced items
    (∀ q X, q < A.n →
      ((∃ it ∈ A.its q, (G.rhsOf it.r)[it.d]? = some X) ↔ ∃ p, A.goto q X = some p)) ∧
    (∀ q X p, q < A.n → A.goto q X = some p →
      p < A.n ∧ ∀ it, it ∈ A.its p ↔ Cl0 G (adv0 G X (fun x => x ∈ A.its q)) it) := by
  have ok := certCanon_ok h
  refine ⟨C09_states_canonical ok, C09_canonical_states ok, ?_, ok.s0, ?_, ?_⟩
  · intro q p hq hp hsame
    rcases Nat.lt_trichotomy q p with hlt | heq | hgt
    · exact absurd (fun it => (hsame it).symm) (ok.distinct p q hlt hp)
    · exact heq
    · exact absurd hsame (ok.distinct q p hgt hq)
  · intro q X hq
    constructor
    · rintro ⟨it, hit, hx⟩
      exact Auto.goto_of_mem (ok.gotoC q hq it hit X hx)
    · rintro ⟨p, hg⟩
      exact (ok.entry q hq X p (Auto.goto_mem hg)).1
  · intro q X p hq hg
    exact (ok.entry q hq X p (Auto.goto_mem hg)).2

/-- Data-level hygiene also established by the certificate: the goto list of a state mentions each
    symbol once (so `A.goto` loses no entry), every entry is a genuine transition, item lists are
    duplicate-free, and every state other than 0 is entered from an earlier state. -/
theorem C09_hygiene (G : Grammar) (A : Auto) (h : certCanon G A = true) :
    A.gotos.length = A.n ∧
    (∀ q, q < A.n → ((A.gts q).map Prod.fst).Nodup) ∧
    (∀ q X p, q < A.n → ((X, p) ∈ A.gts q ↔ A.goto q X = some p)) ∧
    (∀ q, q < A.n → (A.its q).Nodup) ∧
    (∀ p, p < A.n → p ≠ 0 → ∃ q X, q < p ∧ A.goto q X = some p) := by
  have ok := certCanon_ok h
  have hent : ∀ q X p, q < A.n → ((X, p) ∈ A.gts q ↔ A.goto q X = some p) :=
    fun q X p hq => ⟨Auto.goto_of_nodup (ok.symsNodup q hq), Auto.goto_mem⟩
  refine ⟨ok.glen, ok.symsNodup, hent, ok.itemsNodup, ?_⟩
  intro p hp hp0
  obtain ⟨q, hlt, X, hm⟩ := ok.reach p hp hp0
  exact ⟨q, X, hlt, (hent q X p (Nat.lt_trans hlt hp)).mp hm⟩

/-! ## Non-vacuity: the automaton of `S' → S ; S → a S | b` (from C01) passes the certificate;
    an automaton with a missing state, a duplicated state, or a wrong closure does not. -/

theorem exA_canon : certCanon exG exA = true := by decide

example : certCanon exG exA = true := exA_canon

example : closureL exG [⟨0, 0⟩] = some [⟨0, 0⟩, ⟨1, 0⟩, ⟨2, 0⟩] := by decide

/-- dropping the closure item `⟨2,0⟩` from state 2 is detected -/
example : certCanon exG { exA with items := exA.items.set 2 [⟨1, 0⟩, ⟨1, 1⟩] } = false := by decide

/-- an extra (unreachable, duplicate) copy of state 3 is detected -/
example : certCanon exG { items := exA.items ++ [[⟨2, 1⟩]], gotos := exA.gotos ++ [[]] } = false := by
  decide

/-- a missing transition is detected -/
example : certCanon exG { exA with gotos := exA.gotos.set 2 [(2, 2), (4, 4)] } = false := by decide

end Y.Props
