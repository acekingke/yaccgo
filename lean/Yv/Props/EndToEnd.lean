import Yv.Proofs.EndToEndFacts
import Yv.Props.C08
import Yv.Props.C08b
import Yv.Props.C05c
/-! # End to end: the TEXT of the generated Go parser, run on the PACKED arrays of the model pipeline

The stage theorems composed:

    grammar ──buildL──▶ LR(0) automaton ──laL──▶ lookaheads ──genTableL──▶ dense table T
            (C09_gen)                   (C03)                 (C01gen: certT / certC)
    T ──trySplit──▶ defaults + blanked table ──packA──▶ act / off / check        (C05, C05b)
    `Action` text of the Go templates on those arrays  =  `lookupA`               (C05c)
    `Parser` text of the Go templates (interpreter `GoSem`) = `arun` = list driver `run`  (C08b, C08)

The parameter sets differ in the lookup only.  The translated `Action` text is TOTAL, no index range
is built in (its `idx` answers 0 out of range); the `*_checked` theorems are about the lookup with
Go's slice-index checks instead (`pparamsP`).

On a certified table meeting `DenseWF` each of them has the run of the dense table from `init`, for
every input whose symbols are `≤ nT` and not `$` (symbol 0 — what `translate` answers for an unknown
code — is allowed): every lookup of such a run has `q < n` and `a < nS`.  The translated `Parser`
ends as that run does (`GoEndsAs`), and the end-to-end theorems are `C01_sound`, `C06_safe`,
`C02_pipeline` read through this relation at the pipeline's table.

Hypothesis beyond the pipeline's own: `DenseWF T nT nS (errCode n) = true` (decidable; the
computed well-formedness predicate of C05b: a negative slot index `off[q]+a` only where the true
value is the error code).  `denseWF_pipeline`: for a pipeline table it follows from `rowsLive`
(every state has an action cell that is not the error code), a condition on the dense table alone.
`nT < nS`, rectangularity and `T.length = n` are NOT hypotheses: they follow from `gramWF` and
`certT` (`certT_shape`).  Nothing about nonterminal columns is assumed: the goto lookup
`L under.st lhs` has `lhs < nS` by `gramWF` and `under.st < n` by `PathOK`. -/
namespace Y.Props
open Y Y.D Y.GT Y.AD GoSem C08b
open Core (Action)

theorem packed_run_eq {V : Type} (G : Grammar) (nS : Nat) (A : Auto) (T : Dense)
    (sem : Nat → List V → V) (eofVal bv : V)
    (hG : gramWF G nS = true) (hA : certA G A = true) (hT : certT G nS A T = true)
    (hW : SplitA.DenseWF T G.nT nS (errCode A.n) = true)
    (w : List (Sym × V)) (hw : ∀ x ∈ w, x.1 ≤ G.nT ∧ x.1 ≠ 1) (fuel : Nat) :
    run (pparams G T A.n sem eofVal) fuel (init bv w) =
      run (dparams G T A.n sem eofVal) fuel (init bv w) :=
  agree_run_inv sem eofVal hG hA hT _ (packedL_agree hG hT hW) fuel _ (init_inv bv w hw)

/-- the statement on the shape hypotheses alone, pointwise: where the dense table has a cell, the
    packed lookup returns it -/
theorem packed_lookup_eq {V : Type} (G : Grammar) (T : Dense) (n nS : Nat)
    (sem : Nat → List V → V) (eofVal : V)
    (hlen : T.length = n) (hrect : ∀ r ∈ T, r.length = nS) (hnT : G.nT < nS)
    (hW : SplitA.DenseWF T G.nT nS (errCode n) = true) (q a : Nat) (hq : q < n) (ha : a < nS) :
    (pparams G T n sem eofVal).L q a = (dparams G T n sem eofVal).L q a :=
  packedL_eq_cell T G.nT nS (errCode n) hrect hnT hW q a (by omega) ha

/-- the translated `Parser` of the global template, called with stack `s` and input `w` -/
def goParserGlobal {V : Type} (P : Params V) (zeroV : V) (fuel : Nat) (s : AStack V)
    (w : List (Sym × V)) (env : List (Gen.Id × Val V)) : Res V :=
  invoke P zeroV (extOf P zeroV Gen.pushGlobal Gen.popGlobal) fuel Gen.parserGlobal [.str]
    (callState s w env)

def goParserObject {V : Type} (P : Params V) (zeroV : V) (fuel : Nat) (s : AStack V)
    (w : List (Sym × V)) (env : List (Gen.Id × Val V)) : Res V :=
  invoke P zeroV (extOf P zeroV Gen.pushObject Gen.popObject) fuel Gen.parserObject [.str]
    (callState s w env)

/-- The result `r` of a translated Go `Parser` against the outcome `O` of the list driver:
    `accept v` ↦ `return &v`, `syntaxError` ↦ `panic(msg)`, `crash` ↦ run-time panic, out of fuel
    alike, the machine state being the image of a configuration `c` of the array driver above `O`'s.
    `return nil` has no counterpart.  Every end-to-end statement about a Go template is read off this
    relation (by `cases`) and a theorem about the list driver. -/
inductive GoEndsAs {V : Type} (eofVal : V) (env : List (Gen.Id × Val V)) : Res V → Outcome V → Prop
  | accept (v : V) (c : ACfg V) :
    GoEndsAs eofVal env (.ret (.val v) (withEnv env (toM eofVal c))) (.accept v (absCfg c))
  | syntaxError (c : ACfg V) :
    GoEndsAs eofVal env (.err (withEnv env (toM eofVal c))) (.syntaxError (absCfg c))
  | crash : GoEndsAs eofVal env .crash .crash
  | outOfFuel : GoEndsAs eofVal env .outOfFuel .outOfFuel

namespace GoEndsAs
variable {V : Type} {eofVal : V} {env : List (Gen.Id × Val V)} {r : Res V} {O : Outcome V}

theorem intro {cl : ACfg V} {o : AOutcome V} (h : absOutcome o = some O) :
    GoEndsAs eofVal env (toOutcome eofVal env cl o) O := by
  cases o <;> cases h <;> constructor

theorem val_iff (h : GoEndsAs eofVal env r O) :
    (∃ v m, r = .ret (.val v) m) ↔ ∃ v c', O = .accept v c' := by
  cases h <;> simp

theorem of_accept {v : V} {c' : D.Cfg V} (h : GoEndsAs eofVal env r (.accept v c')) :
    ∃ c, absCfg c = c' ∧ r = .ret (.val v) (withEnv env (toM eofVal c)) := by
  cases h; exact ⟨_, rfl, rfl⟩

theorem of_syntaxError {c' : D.Cfg V} (h : GoEndsAs eofVal env r (.syntaxError c')) :
    ∃ c, absCfg c = c' ∧ r = .err (withEnv env (toM eofVal c)) := by
  cases h; exact ⟨_, rfl, rfl⟩

end GoEndsAs

/-- C08b ∘ C08 for an arbitrary parameter set: the translated `Parser` of either template (the object
    template on a new context: `&Context{}` then `ParserInit`) ends as the list driver does -/
theorem parser_list {V : Type} (P : Params V) (zeroV bv : V) (fuel : Nat)
    (w : List (Sym × V)) (env : List (Gen.Id × Val V)) :
    GoEndsAs P.eofVal env (goParserGlobal P zeroV fuel (initGlobal bv) w env) (run P fuel (init bv w)) ∧
    GoEndsAs P.eofVal env (goParserObject P zeroV fuel (initCtx emptyStack bv) w env)
      (run P fuel (init bv w)) := by
  rw [goParserGlobal, parser_global_eq, goParserObject, parser_object_eq]
  exact ⟨.intro (C08_global P w fuel bv), .intro (C08_equiv P w fuel bv).2.2.1⟩

/-- where the stack the theorems start from comes from: the translated `ParserInit` of the global
    template, whatever the global array and pointer held before (`σ`), … -/
theorem parserInit_global {V : Type} (P : Params V) (bv : V) (fuel : Nat) (σ : AStack V)
    (w : List (Sym × V)) (env : List (Gen.Id × Val V)) :
    invoke P bv ext0 fuel Gen.parserInitGlobal [] (callState σ w env)
      = .norm (callState (initGlobal bv) w env) :=
  init_global_eq P bv fuel (callState σ w env) σ

/-- … and the translated `ParserInit` of the object template on a new context (`&Context{}`) -/
theorem parserInit_object {V : Type} (P : Params V) (bv : V) (fuel : Nat)
    (w : List (Sym × V)) (env : List (Gen.Id × Val V)) :
    invoke P bv ext0 fuel Gen.parserInitObject [] (callState emptyStack w env)
      = .norm (callState (initCtx emptyStack bv) w env) :=
  init_object_eq P bv fuel (callState emptyStack w env) emptyStack

/-- the parameters of the packed parser, lookup = the translated `Action` of the global template
    applied to the arrays `act`/`off`/`check` of `packA` and the default vectors of `trySplit` -/
def pparamsGo {V : Type} (G : Grammar) (T : Dense) (n : Nat) (sem : Nat → List V → V) (eofVal : V) :
    Params V :=
  { L := fun q a => some (Gen.actionPackedGlobal
      (PackA.packA (PackX.trySplit T G.nT).tab).act (PackA.packA (PackX.trySplit T G.nT).tab).off
      (PackA.packA (PackX.trySplit T G.nT).tab).check
      (PackX.trySplit T G.nT).actdef (PackX.trySplit T G.nT).gtdef
      (G.nT : Int) (errCode n) (q : Int) (a : Int)),
    errC := errCode n, accC := accCode n,
    rule := fun r => if r = 0 then none else (G.rules[r]?).map (fun rl => (rl.lhs, rl.rhs.length)),
    sem := sem, eofVal := eofVal }

def pparamsGoObj {V : Type} (G : Grammar) (T : Dense) (n : Nat) (sem : Nat → List V → V) (eofVal : V) :
    Params V :=
  { L := fun q a => some (Gen.actionPackedObject
      (PackA.packA (PackX.trySplit T G.nT).tab).act (PackA.packA (PackX.trySplit T G.nT).tab).off
      (PackA.packA (PackX.trySplit T G.nT).tab).check
      (PackX.trySplit T G.nT).actdef (PackX.trySplit T G.nT).gtdef
      (G.nT : Int) (errCode n) (q : Int) (a : Int)),
    errC := errCode n, accC := accCode n,
    rule := fun r => if r = 0 then none else (G.rules[r]?).map (fun rl => (rl.lhs, rl.rhs.length)),
    sem := sem, eofVal := eofVal }

theorem pparamsGo_eq {V : Type} (G : Grammar) (T : Dense) (n : Nat) (sem : Nat → List V → V) (eofVal : V) :
    pparamsGo G T n sem eofVal = pparams G T n sem eofVal := by
  unfold pparamsGo pparams packedL
  simp only [C05c.C05_action_global]

theorem pparamsGoObj_eq {V : Type} (G : Grammar) (T : Dense) (n : Nat) (sem : Nat → List V → V) (eofVal : V) :
    pparamsGoObj G T n sem eofVal = pparams G T n sem eofVal := by
  unfold pparamsGoObj pparams packedL
  simp only [C05c.C05_action_object]

section transfer
variable {V : Type} {G : Grammar} {nS : Nat} {A : Auto} {T : Dense} {sem : Nat → List V → V}
  {eofVal bv : V} {w : List (Sym × V)} {env : List (Gen.Id × Val V)} (hC : Certified G nS A T)
include hC

theorem C01_of_outcome (hw : ∀ x ∈ w, x.1 ≤ G.nT ∧ x.1 ≠ 1) {fuel : Nat} {r : Res V}
    (h : GoEndsAs eofVal env r
      (run (dparams G T A.n sem eofVal) fuel (init bv w)))
    {v : V} {m : M V} (hrun : r = .ret (.val v) m) :
    ∃ rl0, G.rules[0]? = some rl0 ∧ rl0.lhs = 0 ∧
      RmDer G rl0.rhs m.reds (w.map Prod.fst) ∧ m.input = [] ∧ m.req = w.length + 1 := by
  subst hrun
  generalize hO : run _ _ _ = O at h
  cases h
  obtain ⟨rl0, h0, hl, hder, hrest, hreq⟩ :=
    C01_sound G nS A T sem eofVal bv hC.gram hC.auto hC.table w hw fuel v _ hO
  exact ⟨rl0, h0, hl, hder, congrArg List.tail hrest, hreq⟩

theorem C06_of_outcome (hw : ∀ x ∈ w, x.1 ≤ G.nT ∧ x.1 ≠ 1) {fuel : Nat} {r : Res V}
    (h : GoEndsAs eofVal env r
      (run (dparams G T A.n sem eofVal) fuel (init bv w))) :
    r ≠ .crash ∧ ∀ m, r ≠ .ret .nil m := by
  have hnc := (C06_safe G nS A T sem eofVal bv hC.gram hC.auto hC.table w hw fuel).1
  generalize run _ _ _ = O at h hnc
  cases h with
  | crash => exact absurd rfl hnc
  | _ => exact ⟨nofun, nofun⟩

variable {zeroV : V}

/-- either template, with ANY lookup that agrees with the table on its index ranges: the runs are
    the same run (`agree_run_inv`).  `pparams` (`packedL_agree`) and `pparamsP`, the lookup with Go's
    index checks (`lookupGo_agree`), are such parameter sets. -/
theorem parser_agree (L' : Nat → Nat → Option Int) (hL : ∀ q a, q < A.n → a < nS → L' q a = cell T q a)
    (hw : ∀ x ∈ w, x.1 ≤ G.nT ∧ x.1 ≠ 1) (fuel : Nat) (env : List (Gen.Id × Val V)) :
    GoEndsAs eofVal env
      (goParserGlobal { dparams G T A.n sem eofVal with L := L' } zeroV fuel (initGlobal bv) w env)
      (run (dparams G T A.n sem eofVal) fuel (init bv w)) ∧
    GoEndsAs eofVal env
      (goParserObject { dparams G T A.n sem eofVal with L := L' } zeroV fuel (initCtx emptyStack bv) w env)
      (run (dparams G T A.n sem eofVal) fuel (init bv w)) := by
  rw [← agree_run_inv sem eofVal hC.gram hC.auto hC.table L' hL fuel _ (init_inv bv w hw)]
  exact parser_list { dparams G T A.n sem eofVal with L := L' } zeroV bv fuel w env

variable (hW : SplitA.DenseWF T G.nT nS (errCode A.n) = true)
include hW

/-- … with the lookup performed by the translated `Action` text of the respective template -/
theorem parser_go (hw : ∀ x ∈ w, x.1 ≤ G.nT ∧ x.1 ≠ 1) (fuel : Nat) (env : List (Gen.Id × Val V)) :
    GoEndsAs eofVal env
      (goParserGlobal (pparamsGo G T A.n sem eofVal) zeroV fuel (initGlobal bv) w env)
      (run (dparams G T A.n sem eofVal) fuel (init bv w)) ∧
    GoEndsAs eofVal env
      (goParserObject (pparamsGoObj G T A.n sem eofVal) zeroV fuel (initCtx emptyStack bv) w env)
      (run (dparams G T A.n sem eofVal) fuel (init bv w)) := by
  rw [pparamsGo_eq, pparamsGoObj_eq]
  exact parser_agree hC _ (packedL_agree hC.gram hC.table hW) hw fuel env

end transfer

section pipeline
variable {V : Type} (res : Action → Action → Action) (hR : ResSel res)
  (G : Grammar) (nS : Nat) (P : PrecData) (A : Auto) (t : LATab)
  (sem : Nat → List V → V) (eofVal bv zeroV : V)
  (hG : gramWF G nS = true) (hB : buildL G = some A) (hLa : laL G nS A = some t)
include hR hG hB hLa

theorem denseWF_pipeline
    (hlive : rowsLive (genTableL res G nS P A t) G.nT (errCode A.n) = true) :
    SplitA.DenseWF (genTableL res G nS P A t) G.nT nS (errCode A.n) = true :=
  denseWF_of_certT hG (pipeline_certT res hR G nS P A t hG hB hLa).2 hlive

variable (hW : SplitA.DenseWF (genTableL res G nS P A t) G.nT nS (errCode A.n) = true)
include hW

/-- **no index out of range, stack array AND packed arrays**: with Go's index checks in the lookup
    (`lookupGo`: `off[q]`, `gdef[a-nT-1]`, `adef[q]`, `act[o]` answer `none` out of range, and the
    driver then crashes) the translated `Parser` still never ends in a run-time panic, and it
    returns a value exactly when — and after the same reductions as — the dense list driver accepts -/
theorem C06_end_to_end_global_checked
    (w : List (Sym × V)) (hw : ∀ x ∈ w, x.1 ≤ G.nT ∧ x.1 ≠ 1) (fuel : Nat)
    (env : List (Gen.Id × Val V)) :
    goParserGlobal (pparamsP G (genTableL res G nS P A t) A.n sem eofVal) zeroV fuel (initGlobal bv) w env
      ≠ .crash ∧
    ∀ m, goParserGlobal (pparamsP G (genTableL res G nS P A t) A.n sem eofVal) zeroV fuel (initGlobal bv) w env
      ≠ .ret .nil m :=
  have hC := pipeline_certified hR hG hB hLa
  C06_of_outcome hC hw (parser_agree hC _ (lookupGo_agree hG hC.table hW) hw fuel env).1

theorem C06_end_to_end_object_checked
    (w : List (Sym × V)) (hw : ∀ x ∈ w, x.1 ≤ G.nT ∧ x.1 ≠ 1) (fuel : Nat)
    (env : List (Gen.Id × Val V)) :
    goParserObject (pparamsP G (genTableL res G nS P A t) A.n sem eofVal) zeroV fuel (initCtx emptyStack bv) w env
      ≠ .crash ∧
    ∀ m, goParserObject (pparamsP G (genTableL res G nS P A t) A.n sem eofVal) zeroV fuel (initCtx emptyStack bv) w env
      ≠ .ret .nil m :=
  have hC := pipeline_certified hR hG hB hLa
  C06_of_outcome hC hw (parser_agree hC _ (lookupGo_agree hG hC.table hW) hw fuel env).2

theorem C01_end_to_end_global_checked
    (w : List (Sym × V)) (hw : ∀ x ∈ w, x.1 ≤ G.nT ∧ x.1 ≠ 1) (fuel : Nat)
    (env : List (Gen.Id × Val V)) (v : V) (m : M V)
    (hrun : goParserGlobal (pparamsP G (genTableL res G nS P A t) A.n sem eofVal) zeroV fuel
        (initGlobal bv) w env = .ret (.val v) m) :
    ∃ rl0, G.rules[0]? = some rl0 ∧ rl0.lhs = 0 ∧
      RmDer G rl0.rhs m.reds (w.map Prod.fst) ∧ m.input = [] ∧ m.req = w.length + 1 :=
  have hC := pipeline_certified hR hG hB hLa
  C01_of_outcome hC hw (parser_agree hC _ (lookupGo_agree hG hC.table hW) hw fuel env).1 hrun

/-- **C01 for the generated text, `Parser` AND `Action` (global template).** For every well-formed
    grammar for which the verified generators return and whose table meets `DenseWF`: if the
    translated `Parser`, run on the packed arrays, returns a value, then the reductions it performed
    (most recent first) are a rightmost derivation of exactly the input from the start rule's body;
    all input was consumed and `|w|+1` tokens were requested. -/
theorem C01_end_to_end_global_go
    (w : List (Sym × V)) (hw : ∀ x ∈ w, x.1 ≤ G.nT ∧ x.1 ≠ 1) (fuel : Nat)
    (env : List (Gen.Id × Val V)) (v : V) (m : M V)
    (hrun : goParserGlobal (pparamsGo G (genTableL res G nS P A t) A.n sem eofVal) zeroV fuel
        (initGlobal bv) w env = .ret (.val v) m) :
    ∃ rl0, G.rules[0]? = some rl0 ∧ rl0.lhs = 0 ∧
      RmDer G rl0.rhs m.reds (w.map Prod.fst) ∧ m.input = [] ∧ m.req = w.length + 1 :=
  C01_of_outcome (pipeline_certified hR hG hB hLa) hw
    (parser_go (pipeline_certified hR hG hB hLa) hW hw fuel env).1 hrun

/-- **C01 for the generated text, `Parser` AND `Action` (object template, new context).** -/
theorem C01_end_to_end_object_go
    (w : List (Sym × V)) (hw : ∀ x ∈ w, x.1 ≤ G.nT ∧ x.1 ≠ 1) (fuel : Nat)
    (env : List (Gen.Id × Val V)) (v : V) (m : M V)
    (hrun : goParserObject (pparamsGoObj G (genTableL res G nS P A t) A.n sem eofVal) zeroV fuel
        (initCtx emptyStack bv) w env = .ret (.val v) m) :
    ∃ rl0, G.rules[0]? = some rl0 ∧ rl0.lhs = 0 ∧
      RmDer G rl0.rhs m.reds (w.map Prod.fst) ∧ m.input = [] ∧ m.req = w.length + 1 :=
  C01_of_outcome (pipeline_certified hR hG hB hLa) hw
    (parser_go (pipeline_certified hR hG hB hLa) hW hw fuel env).2 hrun

theorem C06_end_to_end_global_go
    (w : List (Sym × V)) (hw : ∀ x ∈ w, x.1 ≤ G.nT ∧ x.1 ≠ 1) (fuel : Nat)
    (env : List (Gen.Id × Val V)) :
    goParserGlobal (pparamsGo G (genTableL res G nS P A t) A.n sem eofVal) zeroV fuel (initGlobal bv) w env
      ≠ .crash ∧
    ∀ m, goParserGlobal (pparamsGo G (genTableL res G nS P A t) A.n sem eofVal) zeroV fuel (initGlobal bv) w env
      ≠ .ret .nil m :=
  C06_of_outcome (pipeline_certified hR hG hB hLa) hw
    (parser_go (pipeline_certified hR hG hB hLa) hW hw fuel env).1

theorem C06_end_to_end_object_go
    (w : List (Sym × V)) (hw : ∀ x ∈ w, x.1 ≤ G.nT ∧ x.1 ≠ 1) (fuel : Nat)
    (env : List (Gen.Id × Val V)) :
    goParserObject (pparamsGoObj G (genTableL res G nS P A t) A.n sem eofVal) zeroV fuel (initCtx emptyStack bv) w env
      ≠ .crash ∧
    ∀ m, goParserObject (pparamsGoObj G (genTableL res G nS P A t) A.n sem eofVal) zeroV fuel (initCtx emptyStack bv) w env
      ≠ .ret .nil m :=
  C06_of_outcome (pipeline_certified hR hG hB hLa) hw
    (parser_go (pipeline_certified hR hG hB hLa) hW hw fuel env).2

/-- **C02 for the generated text, `Parser` AND `Action` (global template).** For every LALR(1)
    grammar (no table cell with two candidates) and every string of terminals other than `$`: the
    translated `Parser` on the packed arrays returns a value (for some bound on the number of loop
    iterations) iff the string is a sentence of the grammar. -/
theorem C02_end_to_end_global_go
    (hM : maxCandsL G nS P A t ≤ 1) (S₀ : Sym) (h0 : G.rules[0]? = some ⟨0, [S₀]⟩)
    (w : List (Sym × V)) (hwT : ∀ x ∈ w, G.isT x.1 = true ∧ x.1 ≠ 1)
    (env : List (Gen.Id × Val V)) :
    (∃ fuel v m, goParserGlobal (pparamsGo G (genTableL res G nS P A t) A.n sem eofVal) zeroV fuel
        (initGlobal bv) w env = .ret (.val v) m) ↔ GenL G [S₀] (w.map Prod.fst) :=
  (exists_congr fun fuel => (parser_go (pipeline_certified hR hG hB hLa) hW (isT_valid hwT) fuel env).1.val_iff).trans
    (C02_pipeline res hR G nS P A t sem eofVal bv hG hB hLa hM S₀ h0 w hwT)

/-- **C02 for the generated text, `Parser` AND `Action` (object template, new context).** -/
theorem C02_end_to_end_object_go
    (hM : maxCandsL G nS P A t ≤ 1) (S₀ : Sym) (h0 : G.rules[0]? = some ⟨0, [S₀]⟩)
    (w : List (Sym × V)) (hwT : ∀ x ∈ w, G.isT x.1 = true ∧ x.1 ≠ 1)
    (env : List (Gen.Id × Val V)) :
    (∃ fuel v m, goParserObject (pparamsGoObj G (genTableL res G nS P A t) A.n sem eofVal) zeroV fuel
        (initCtx emptyStack bv) w env = .ret (.val v) m) ↔ GenL G [S₀] (w.map Prod.fst) :=
  (exists_congr fun fuel => (parser_go (pipeline_certified hR hG hB hLa) hW (isT_valid hwT) fuel env).2.val_iff).trans
    (C02_pipeline res hR G nS P A t sem eofVal bv hG hB hLa hM S₀ h0 w hwT)

end pipeline

/-! The grammar `S' → S ; S → a S | b` of C01 (`exG`, 5 symbols, 5 states) meets every hypothesis:
the verified pipeline returns on it, its table is `exT`, no cell has two candidates, and `exT`
meets `DenseWF` (through the criterion `DenseSimple` on the dense table, and also through
`rowsLive`).  The theorems are then instantiated:
the text of `Parser` + `Action` of the global template on the packed arrays of `exT` accepts exactly
`a* b`, and on `a a b` it returns a value after the reductions 2, 1, 1. -/

theorem ex_pipeline : ∃ A t, buildL exG = some A ∧ laL exG 5 A = some t ∧
    genTableL Core.pairWinner exG 5 noPrec A t = exT ∧ maxCandsL exG 5 noPrec A t = 1 ∧ A.n = 5 :=
  table_of_eval exG_eval

theorem ex_denseWF : SplitA.DenseWF exT exG.nT 5 (errCode 5) = true :=
  SplitA.denseWF_of_simple PackX.findMax exT 3 5 105 (by decide) (by decide) (by decide)

/-- the weaker sufficient condition of `denseWF_pipeline` holds as well -/
example : rowsLive exT exG.nT (errCode 5) = true := by decide

/-- all hypotheses of the end-to-end theorems hold for `exG` -/
example : gramWF exG 5 = true ∧ ResSel Core.pairWinner ∧
    ∃ A t, buildL exG = some A ∧ laL exG 5 A = some t ∧ maxCandsL exG 5 noPrec A t ≤ 1 ∧
      SplitA.DenseWF (genTableL Core.pairWinner exG 5 noPrec A t) exG.nT 5 (errCode A.n) = true ∧
      exG.rules[0]? = some ⟨0, [4]⟩ := by
  obtain ⟨A, t, hB, hL, hT, hM, hn⟩ := ex_pipeline
  refine ⟨by decide, C01_pairWinner_sel, A, t, hB, hL, by omega, ?_, rfl⟩
  rw [hT, hn]; exact ex_denseWF

theorem ex_isT {w : List (Sym × Unit)} (hw : ∀ x ∈ w, x.1 = 2 ∨ x.1 = 3) :
    ∀ x ∈ w, exG.isT x.1 = true ∧ x.1 ≠ 1 := by
  intro x hx
  rcases hw x hx with h | h <;> rw [h] <;> decide

/-- **instance of `C02_end_to_end_global_go`**: the generated text (`Parser` and `Action` of the
    global template) on the packed arrays of `exT` returns a value exactly on the sentences of
    `exG` — for every string over `a` (2) and `b` (3) -/
theorem ex_end_to_end (w : List (Sym × Unit)) (hw : ∀ x ∈ w, x.1 = 2 ∨ x.1 = 3)
    (env : List (Gen.Id × Val Unit)) :
    (∃ fuel v m, goParserGlobal (pparamsGo exG exT 5 (fun _ _ => ()) ()) () fuel
        (initGlobal ()) w env = .ret (.val v) m) ↔ GenL exG [4] (w.map Prod.fst) := by
  obtain ⟨A, t, hB, hL, hT, hM, hn⟩ := ex_pipeline
  have := C02_end_to_end_global_go Core.pairWinner C01_pairWinner_sel exG 5 noPrec A t
    (fun _ _ => ()) () () () (by decide) hB hL (by rw [hT, hn]; exact ex_denseWF) (by omega) 4 rfl w (ex_isT hw) env
  rw [hT, hn] at this
  exact this

/-- a concrete run of the generated text on the packed arrays: `a a b` is accepted after the
    reductions `S → b`, `S → a S`, `S → a S` (most recent first: `[1, 1, 2]`) -/
example : ∃ v m, goParserGlobal (pparamsGo exG exT 5 (fun _ _ => ()) ()) () 20
      (initGlobal ()) [(2, ()), (2, ()), (3, ())] [] = .ret (.val v) m ∧ m.reds = [1, 1, 2] := by
  obtain ⟨A, t, hB, hL, hT, hM, hn⟩ := ex_pipeline
  have h := (parser_go (sem := fun _ _ => ()) (eofVal := ()) (bv := ()) (zeroV := ())
    (w := [(2, ()), (2, ()), (3, ())]) (pipeline_certified C01_pairWinner_sel (by decide) hB hL)
    (by rw [hT, hn]; exact ex_denseWF) (by decide) 20 []).1
  rw [hT, hn] at h
  have hd : ∃ c', run (dparams (V := Unit) exG exT 5 (fun _ _ => ()) ()) 20
      (init () [(2, ()), (2, ()), (3, ())]) = .accept () c' ∧ c'.reds = [1, 1, 2] := ⟨_, rfl, rfl⟩
  obtain ⟨c', hrun, hreds⟩ := hd
  rw [hrun] at h
  obtain ⟨c, rfl, hr⟩ := h.of_accept
  exact ⟨(), _, hr, hreds⟩

/-! Direct evaluation, independent of the theorems above: the packed arrays of `exT` are known (`SplitA.ex_packed`: act/off/check; the default vectors by
`decide`), so the interpreter can be run by the kernel on the concrete arrays, the lookup being the
translated `Action` text. -/

/-- `pparamsGo exG exT 5` with the arrays written out -/
def exGoP : Params Unit :=
  { L := fun q a => some (Gen.actionPackedGlobal [205, 2, 3, 1, 2, 3, 4, -2, -1] [-1, -1, 2, 6, 7]
      [1, 0, 0, 0, 2, 2, 2, 3, 4] [105, 105, 105, 105, 105] [105] 3 105 (q : Int) (a : Int)),
    errC := 105, accC := 205,
    rule := fun r => if r = 0 then none else (exG.rules[r]?).map (fun rl => (rl.lhs, rl.rhs.length)),
    sem := fun _ _ => (), eofVal := () }

theorem exGo_eq : pparamsGo (V := Unit) exG exT 5 (fun _ _ => ()) () = exGoP := by
  have h1 := SplitA.ex_packed
  have h2 : (PackX.trySplit exT 3).actdef = [105, 105, 105, 105, 105] ∧
      (PackX.trySplit exT 3).gtdef = [105] := by decide
  unfold pparamsGo exGoP
  show Params.mk (fun q a => some (Gen.actionPackedGlobal (PackA.packA (PackX.trySplit exT 3).tab).act
    (PackA.packA (PackX.trySplit exT 3).tab).off (PackA.packA (PackX.trySplit exT 3).tab).check
    (PackX.trySplit exT 3).actdef (PackX.trySplit exT 3).gtdef _ _ _ _)) _ _ _ _ _ = _
  rw [h1, h2.1, h2.2]
  rfl

/-- what `Parser` did: 0 = returned a value, 1 = returned nil, 2 = `panic(msg)` (syntax error),
    3 = run-time panic, 4 = out of fuel; with the reductions, the tokens requested, the tokens left -/
def rview {V : Type} : Res V → Nat × List Nat × Nat × Nat
  | .ret (.val _) m => (0, m.reds, m.req, m.input.length)
  | .ret _ m => (1, m.reds, m.req, m.input.length)
  | .err m => (2, m.reds, m.req, m.input.length)
  | .crash => (3, [], 0, 0)
  | .outOfFuel => (4, [], 0, 0)
  | .norm _ => (5, [], 0, 0)
  | .brk _ => (6, [], 0, 0)

/-- `a a b`: accepted, reductions 2, 1, 1, four tokens requested (three and the end marker) -/
theorem ex_run_accepts : rview (goParserGlobal (pparamsGo exG exT 5 (fun _ _ => ()) ()) () 20
    (initGlobal ()) [(2, ()), (2, ()), (3, ())] []) = (0, [1, 1, 2], 4, 0) := by
  rw [exGo_eq]; decide +kernel

example : rview (goParserGlobal (pparamsGo exG exT 5 (fun _ _ => ()) ()) () 20
    (initGlobal ()) [(2, ()), (2, ()), (3, ())] []) = (0, [1, 1, 2], 4, 0) := ex_run_accepts

/-- `a a`: syntax error at the end marker -/
theorem ex_run_rejects : rview (goParserGlobal (pparamsGo exG exT 5 (fun _ _ => ()) ()) () 20
    (initGlobal ()) [(2, ()), (2, ())] []) = (2, [], 3, 0) := by
  rw [exGo_eq]; decide +kernel

example : rview (goParserGlobal (pparamsGo exG exT 5 (fun _ _ => ()) ()) () 20
    (initGlobal ()) [(2, ()), (2, ())] []) = (2, [], 3, 0) := ex_run_rejects

/-- `b b`: syntax error at the second `b` (state 3 holds the error code on `b`: nothing is reduced) -/
example : rview (goParserGlobal (pparamsGo exG exT 5 (fun _ _ => ()) ()) () 20
    (initGlobal ()) [(3, ()), (3, ())] []) = (2, [], 2, 0) := by
  rw [exGo_eq]; decide +kernel

/-- an unknown input code (`translate` answers 0): syntax error, no run-time panic -/
example : rview (goParserGlobal (pparamsGo exG exT 5 (fun _ _ => ()) ()) () 20
    (initGlobal ()) [(2, ()), (0, ())] []) = (2, [], 2, 0) := by
  rw [exGo_eq]; decide +kernel

/-- the object template, new context -/
example : rview (goParserObject (pparamsGoObj exG exT 5 (fun _ _ => ()) ()) () 20
    (initCtx emptyStack ()) [(2, ()), (2, ()), (3, ())] []) = (0, [1, 1, 2], 4, 0) := by
  rw [pparamsGoObj_eq, ← pparamsGo_eq, exGo_eq]; decide +kernel

/-! A second instance, the LALR(1)-but-not-SLR(1) grammar `laG` of C03:
`S' → S ; S → L = R | R ; L → * R | id ; R → L` (terminals `=` 2, `*` 3, `id` 4; 8 symbols,
10 states).  The pipeline returns, no cell has two candidates, the table meets `DenseSimple`. -/

theorem la_pipeline : ∃ A t, buildL laG = some A ∧ laL laG 8 A = some t ∧
    genTableL Core.pairWinner laG 8 noPrec A t = laT ∧ maxCandsL laG 8 noPrec A t = 1 ∧ A.n = 10 :=
  table_of_eval laG_eval

theorem la_denseWF : SplitA.DenseWF laT laG.nT 8 (errCode 10) = true :=
  SplitA.denseWF_of_simple PackX.findMax laT 4 8 110 (by decide) (by decide) (by decide)

/-- the generated text on the packed arrays of `laG`'s table accepts exactly the language of
    `laG`, for every string over `=`, `*`, `id` -/
theorem la_end_to_end (w : List (Sym × Unit)) (hw : ∀ x ∈ w, x.1 = 2 ∨ x.1 = 3 ∨ x.1 = 4)
    (env : List (Gen.Id × Val Unit)) :
    (∃ fuel v m, goParserGlobal (pparamsGo laG laT 10 (fun _ _ => ()) ()) () fuel
        (initGlobal ()) w env = .ret (.val v) m) ↔ GenL laG [5] (w.map Prod.fst) := by
  obtain ⟨A, t, hB, hL, hT, hM, hn⟩ := la_pipeline
  have hwT : ∀ x ∈ w, laG.isT x.1 = true ∧ x.1 ≠ 1 := by
    intro x hx
    rcases hw x hx with h | h | h <;> rw [h] <;> decide
  have := C02_end_to_end_global_go Core.pairWinner C01_pairWinner_sel laG 8 noPrec A t
    (fun _ _ => ()) () () () (by decide) hB hL (by rw [hT, hn]; exact la_denseWF) (by omega) 5 rfl w hwT env
  rw [hT, hn] at this
  exact this

end Y.Props

#print axioms Y.Props.packed_run_eq
#print axioms Y.Props.pparamsGo_eq
#print axioms Y.Props.pparamsGoObj_eq
#print axioms Y.Props.C01_end_to_end_global_go
#print axioms Y.Props.C01_end_to_end_object_go
#print axioms Y.Props.C06_end_to_end_global_go
#print axioms Y.Props.C06_end_to_end_object_go
#print axioms Y.Props.C02_end_to_end_global_go
#print axioms Y.Props.C02_end_to_end_object_go
#print axioms Y.Props.C06_end_to_end_global_checked
#print axioms Y.Props.C06_end_to_end_object_checked
#print axioms Y.Props.C01_end_to_end_global_checked
#print axioms Y.Props.denseWF_pipeline
#print axioms Y.Props.ex_end_to_end
#print axioms Y.Props.la_end_to_end
#print axioms Y.Props.exGo_eq
