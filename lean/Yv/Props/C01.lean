import Yv.Proofs.DSound
/-! # C01 — every accepted input has a valid derivation (soundness)

For **every** table that passes the decidable certificates (`gramWF`, `certA`, `certT`) — in
particular tables whose conflicts were resolved by precedence or by the default rules, and tables
built from wrong lookahead sets — for every input and every fuel: if the driver accepts, the
reductions it performed, most recent first, are a rightmost derivation of exactly the input from the
start rule's body `[S]`, every token was consumed, and exactly `|w|+1` tokens were requested. -/
namespace Y.Props
open Y Y.D

theorem C01_sound {V : Type} (G : Grammar) (nS : Nat) (A : Auto) (T : Dense)
    (sem : Nat → List V → V) (eofVal bv : V)
    (hG : gramWF G nS = true) (hA : certA G A = true) (hT : certT G nS A T = true)
    (w : List (Sym × V)) (hw : ∀ t ∈ w, t.1 ≤ G.nT ∧ t.1 ≠ 1)
    (fuel : Nat) (v : V) (c' : D.Cfg V)
    (hrun : run (dparams G T A.n sem eofVal) fuel (init bv w) = .accept v c') :
    ∃ rl0, G.rules[0]? = some rl0 ∧ rl0.lhs = 0 ∧
      RmDer G rl0.rhs c'.reds (w.map Prod.fst) ∧ c'.rest = [] ∧ c'.req = w.length + 1 := by
  have hG' := gramWF_ok hG
  obtain ⟨hreach, hacc⟩ := (run_end _ fuel _).1 v c' hrun
  have hi := reach_inv sem eofVal hG' (certA_ok hA) (certT_ok hT) (init_inv (A := A) bv w hw) hreach
  cases hacc ▸ step_amove sem eofVal hG' (certA_ok hA) (certT_ok hT) hi with
  | acc hst hrest hit =>
    obtain ⟨S₀, h0, hsy⟩ := acc_syms hG' (certA_ok hA) hi.path (by rw [hst]; exact hit)
    refine ⟨_, h0, rfl, ?_, hrest, ?_⟩
    · have := hi.der (by intro t ht; rw [hrest] at ht; cases ht)
      rwa [hsy, hrest, List.map_nil, List.append_nil] at this
    · have := hi.cnt
      rwa [hrest, List.length_nil, Nat.add_zero, List.length_map] at this

/-! ## Non-vacuity: a concrete grammar, automaton and table pass the certificates, and the driver
    accepts a sentence on them.  `S' → S ; S → a S | b` with terminals `$`=1, `a`=2, `b`=3, `S`=4. -/

def exG : Grammar := { nT := 3, rules := [⟨0, [4]⟩, ⟨4, [2, 4]⟩, ⟨4, [3]⟩] }
def exA : Auto :=
  { items := [[⟨0,0⟩, ⟨1,0⟩, ⟨2,0⟩], [⟨0,1⟩], [⟨1,0⟩, ⟨1,1⟩, ⟨2,0⟩], [⟨2,1⟩], [⟨1,2⟩]],
    gotos := [[(4,1), (2,2), (3,3)], [], [(2,2), (4,4), (3,3)], [], []] }
def exT : Dense :=
  [[105, 105, 2, 3, 1], [105, 205, 105, 105, 105], [105, 105, 2, 3, 4], [105, -2, 105, 105, 105],
   [105, -1, 105, 105, 105]]

theorem exG_wf : gramWF exG 5 = true := by decide +kernel
theorem exA_ok : certA exG exA = true := by decide +kernel
theorem exT_ok : certT exG 5 exA exT = true := by decide +kernel

example : gramWF exG 5 = true ∧ certA exG exA = true ∧ certT exG 5 exA exT = true :=
  ⟨exG_wf, exA_ok, exT_ok⟩

example : ∃ v c', run (dparams (V := Unit) exG exT exA.n (fun _ _ => ()) ()) 20 (init () [(2, ()), (2, ()), (3, ())])
    = .accept v c' ∧ c'.reds = [1, 1, 2] := ⟨(), _, rfl, rfl⟩

end Y.Props
