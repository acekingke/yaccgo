import Yv.Proofs.DPModel
import Yv.Props.C03
/-! # C03b — the DeRemer–Pennello computation yields exactly the LALR(1) lookahead sets

yaccgo computes its lookahead sets with the DeRemer–Pennello method (`LALR/LALR.go`): transitions,
`DR`, `reads`, `Read`, `includes`, `Follow`, `lookback`, `LA`.  `Yv/Model/DP.lean` is an executable
model of these stages on the data `(G, A)` (grammar, LR(0) automaton with ordered goto lists) and
the nullable list; the two set-valued closures (`Read`, `Follow`) are computed as LEAST SOLUTIONS by a
fuelled iteration plus a final closedness check (`solve`), not by the implementation's SCC-based
`Digraph` — the implementation's `ReadSet` / `FollowSet` / lookahead sets are compared with these
least solutions on every run.

## The declarative description (`Yv/Abs/DPRel.lean`)

Over the automaton, with a nonterminal transition named by `(state, symbol)` and a reduce transition
by `(state, rule)`:

* `InDR p B a`   — `a` is a terminal with a transition out of `goto p B` (`B` a nonterminal), or
                   `(p, B, a) = (0, S₀, $)` where `rules[0] = start' → S₀`;
* `Reads p B p₁ C` — `p₁ = goto p B`, `C` a nonterminal deriving the empty string, `goto p₁ C` defined;
* `InRead`       — least solution of `Read x = DR x ∪ ⋃ {Read y | x reads y}` (inductive);
* `Includes p B p' C` — a rule `C → β B γ` with `γ` deriving the empty string, some item of that rule
                   in `p'`, `walk p' β = p`, `goto p' C` defined;
* `InFollow`     — least solution of `Follow x = Read x ∪ ⋃ {Follow y | x includes y}` (inductive);
* `Lookback q r p` — `walk p (rhs r) = q` and `goto p (lhs r)` defined;
* `InLA q r a`   — `a = $` if `r = 0`; otherwise `a ∈ Follow (p, lhs r)` for some `p` looked back to.

## The theorems

* `C03_dp_declarative`: on an automaton that passes `certA` and `certCanon`, for a grammar that
  passes `gramWF` and `prodOK`, `InLA q r a ↔ LA G A.goto q ⟨r, |rhs r|⟩ a` for every complete
  item of every state — the classical DeRemer–Pennello theorem (both directions).
* `C03_dp_read`, `C03_dp_follow`, `C03_dp_la`: when the model returns its stages, its `Read`,
  `Follow` and lookahead lists contain exactly the members of the declarative sets.
* `C03_dp_exact` (MAIN): membership in the lookahead list the model attaches to the reduction by `r`
  in state `q` is exactly the LALR(1) relation `LA` (hence, by `LA_iff`, the union of the LR(1)
  lookaheads over all canonical LR(1) states with the same LR(0) core).
* `C03_dp_eq_laL`: whenever the verified oracle `laL` of C03 also returns, `laLinesDP` and `laLines`
  are the same list.

## Hypotheses, all decidable and evaluated on the implementation's artefacts

* `gramWF G nS`   — rule 0 is `start' → S₀`; no right-hand side mentions `start'` or `$`; left-hand
                    sides are nonterminals.
* `certA G A`     — goto targets are states other than 0 whose kernel items come from the source;
                    goto completeness; the start item only in state 0.
* `certCanon G A` — every state IS the LR(0) closure of its kernel (closure completeness is needed
                    for completeness of `includes`/`reads`; well-founded justification of closure items
                    is needed for soundness of `DR`/`reads`: `certA` alone accepts a closure item that
                    justifies itself, e.g. `A → · A y` in a state without any other `A`-item, and the
                    implementation would then read `y` there); goto symbols pairwise distinct (a
                    transition is identified by state and symbol); every goto entry has its symbol
                    after some dot; every state is reachable (an unreachable state `p` with
                    `walk p ω = q` would contribute `Follow (p, C)` to the reachable `(q, C → ω)`).
* `prodOK G nS`   — `$` is a terminal and every symbol derives a terminal string (`FirstOf` speaks
                    about derivable terminal strings).
* `dpStartOK G A` — transition 0 of the sorted transition list is the transition of state 0 on
                    `S₀`.  The implementation appends `$` to `DRSet[0]` unconditionally; if the first
                    goto entry of state 0 were on another symbol, `$` would be attached to the wrong
                    transition (see the counterexample at the end of this file).
* `stages G nS A = some st` — the model's nullable list passed its closedness check and both least
                    solutions passed theirs. -/
namespace Y.Props
open Y Y.DP

theorem dph_of_certs {G : Grammar} {nS : Nat} {A : Auto} (hG : gramWF G nS = true)
    (hA : certA G A = true) (hC : certCanon G A = true) (hP : prodOK G nS = true) : DPH G nS A :=
  ⟨gramWF_ok hG, certA_ok hA, certCanon_ok hC, prodOK_ok hP⟩

theorem C03_dp_declarative (G : Grammar) (nS : Nat) (A : Auto)
    (hG : gramWF G nS = true) (hA : certA G A = true) (hC : certCanon G A = true)
    (hP : prodOK G nS = true) (q r : Nat)
    (hit : (⟨r, (G.rhsOf r).length⟩ : Item) ∈ A.its q) (a : Sym) :
    InLA G A q r a ↔ LA G A.goto q ⟨r, (G.rhsOf r).length⟩ a :=
  have h := dph_of_certs hG hA hC hP
  ⟨inLA_LA h (its_lt hit) hit, LA_inLA h⟩

theorem mh_of_stages {G : Grammar} {nS : Nat} {A : Auto} {st : Stages}
    (hG : gramWF G nS = true) (hA : certA G A = true) (hC : certCanon G A = true)
    (hP : prodOK G nS = true) (hS : dpStartOK G A = true) (hst : stages G nS A = some st) :
    MH G nS A (nullableL G nS) :=
  ⟨dph_of_certs hG hA hC hP, (stages_some hst).1, hS⟩

theorem C03_dp_read (G : Grammar) (nS : Nat) (A : Auto) (st : Stages)
    (hG : gramWF G nS = true) (hA : certA G A = true) (hC : certCanon G A = true)
    (hP : prodOK G nS = true) (hS : dpStartOK G A = true) (hst : stages G nS A = some st)
    (i : Nat) (t : Tr) (B : Sym) (hi : st.trans[i]? = some t) (hk : t.kind = .sym B)
    (hkey : isKey G i t = true) (a : Sym) :
    a ∈ st.read.getD i [] ↔ InRead G A t.q B a :=
  stage_read_iff (mh_of_stages hG hA hC hP hS hst) (stages_some hst).2 hi hk hkey a

theorem C03_dp_follow (G : Grammar) (nS : Nat) (A : Auto) (st : Stages)
    (hG : gramWF G nS = true) (hA : certA G A = true) (hC : certCanon G A = true)
    (hP : prodOK G nS = true) (hS : dpStartOK G A = true) (hst : stages G nS A = some st)
    (i : Nat) (t : Tr) (B : Sym) (hi : st.trans[i]? = some t) (hk : t.kind = .sym B)
    (hkey : isKey G i t = true) (a : Sym) :
    a ∈ st.follow.getD i [] ↔ InFollow G A t.q B a :=
  stage_follow_iff (mh_of_stages hG hA hC hP hS hst) (stages_some hst).2 hi hk hkey a

theorem C03_dp_la (G : Grammar) (nS : Nat) (A : Auto) (st : Stages)
    (hG : gramWF G nS = true) (hA : certA G A = true) (hC : certCanon G A = true)
    (hP : prodOK G nS = true) (hS : dpStartOK G A = true) (hst : stages G nS A = some st)
    (q r : Nat) (hit : (⟨r, (G.rhsOf r).length⟩ : Item) ∈ A.its q) (a : Sym) :
    a ∈ st.laGet q r ↔ InLA G A q r a :=
  laGet_iff (mh_of_stages hG hA hC hP hS hst) (stages_some hst).2 hit a

theorem C03_dp_exact (G : Grammar) (nS : Nat) (A : Auto) (st : Stages)
    (hG : gramWF G nS = true) (hA : certA G A = true) (hC : certCanon G A = true)
    (hP : prodOK G nS = true) (hS : dpStartOK G A = true) (hst : stages G nS A = some st)
    (q r : Nat) (hit : (⟨r, (G.rhsOf r).length⟩ : Item) ∈ A.its q) (a : Sym) :
    a ∈ st.laGet q r ↔ LA G A.goto q ⟨r, (G.rhsOf r).length⟩ a :=
  (C03_dp_la G nS A st hG hA hC hP hS hst q r hit a).trans
    (C03_dp_declarative G nS A hG hA hC hP q r hit a)

/-- the same for a nullable list given from outside (the implementation's own flags) that passes
    `nullExactB` -/
theorem C03_dp_exact_with (G : Grammar) (nS : Nat) (A : Auto) (nl : List Sym) (st : Stages)
    (hG : gramWF G nS = true) (hA : certA G A = true) (hC : certCanon G A = true)
    (hP : prodOK G nS = true) (hS : dpStartOK G A = true) (hN : nullExactB G nS nl = true)
    (hst : stagesWith G A nl = some st)
    (q r : Nat) (hit : (⟨r, (G.rhsOf r).length⟩ : Item) ∈ A.its q) (a : Sym) :
    a ∈ st.laGet q r ↔ LA G A.goto q ⟨r, (G.rhsOf r).length⟩ a :=
  (laGet_iff ⟨dph_of_certs hG hA hC hP, nullExactB_ok hN, hS⟩ hst hit a).trans
    (C03_dp_declarative G nS A hG hA hC hP q r hit a)

theorem C03_dp_lr1 (G : Grammar) (nS : Nat) (A : Auto) (st : Stages)
    (hG : gramWF G nS = true) (hA : certA G A = true) (hC : certCanon G A = true)
    (hP : prodOK G nS = true) (hS : dpStartOK G A = true) (hst : stages G nS A = some st)
    (q r : Nat) (hit : (⟨r, (G.rhsOf r).length⟩ : Item) ∈ A.its q) (a : Sym) :
    a ∈ st.laGet q r ↔ ∃ γ, pathr A.goto γ = some q ∧ St1 G γ ⟨r, (G.rhsOf r).length⟩ a :=
  (C03_dp_exact G nS A st hG hA hC hP hS hst q r hit a).trans (LA_iff G A.goto q _ a)

/-- what the harness compares: every line `(q, r, las)` of `laLinesDP` is a complete item of state
    `q` with `las` listing exactly its LALR(1) lookaheads -/
theorem C03_dp_lines (G : Grammar) (nS : Nat) (A : Auto) (ls : List (Nat × Nat × List Sym))
    (hG : gramWF G nS = true) (hA : certA G A = true) (hC : certCanon G A = true)
    (hP : prodOK G nS = true) (hS : dpStartOK G A = true) (hls : laLinesDP G nS A = some ls)
    (q r : Nat) (las : List Sym) (hl : (q, r, las) ∈ ls) :
    q < A.n ∧ (⟨r, (G.rhsOf r).length⟩ : Item) ∈ A.its q ∧
      ∀ a, a ∈ las ↔ LA G A.goto q ⟨r, (G.rhsOf r).length⟩ a := by
  obtain ⟨st, hst, rfl⟩ := Option.map_eq_some_iff.mp hls
  obtain ⟨hq, hit, rfl⟩ := mem_linesOf (la := fun q it => st.laGet q it.r) hl
  exact ⟨hq, hit, fun a => mem_sortS.trans (C03_dp_exact G nS A st hG hA hC hP hS hst q r hit a)⟩

theorem C03_dp_eq_laL (G : Grammar) (nS : Nat) (A : Auto) (st : Stages) (t : LATab)
    (hG : gramWF G nS = true) (hA : certA G A = true) (hC : certCanon G A = true)
    (hP : prodOK G nS = true) (hS : dpStartOK G A = true)
    (hst : stages G nS A = some st) (ht : laL G nS A = some t) :
    laLinesDP G nS A = some (laLines G A t) := by
  rw [laLinesDP, hst]
  exact congrArg some (linesOf_congr fun q r hit a =>
    (C03_dp_exact G nS A st hG hA hC hP hS hst q r hit a).trans
      (C03_oracle_exact G nS A t ht hP (certA_ok hA).npos q _ a).symm)

/-! ## Non-vacuity: the grammar `S' → S ; S → L = R | R ; L → * R | id ; R → L` of C03 -/

theorem laG_certs : gramWF laG 8 = true ∧ certA laG laA = true ∧ prodOK laG 8 = true ∧
    dpStartOK laG laA = true := by decide +kernel

example : gramWF laG 8 = true ∧ certA laG laA = true ∧ prodOK laG 8 = true ∧
    dpStartOK laG laA = true := laG_certs

theorem laG_canon : certCanon laG laA = true := by decide +kernel

example : certCanon laG laA = true := laG_canon

/-- the model returns, and its lines are those of the oracle -/
theorem laG_linesDP : laLinesDP laG 8 laA =
    some [(1, 0, [1]), (2, 5, [1]), (3, 2, [1]), (5, 4, [1, 2]), (7, 3, [1, 2]), (8, 5, [1, 2]),
          (9, 1, [1])] := by decide +kernel

example : laLinesDP laG 8 laA = (laL laG 8 laA).map (laLines laG laA) :=
  laG_linesDP.trans laG_lines.symm

/-- consequence, through `C03_dp_lines`: in state 2 the LALR(1) lookahead set of `R → L ·` is `{$}` -/
example : ∀ a, LA laG laA.goto 2 ⟨5, 1⟩ a ↔ a = 1 := by
  obtain ⟨hG, hA, hP, hS⟩ := laG_certs
  intro a
  exact ((C03_dp_lines laG 8 laA _ hG hA laG_canon hP hS laG_linesDP 2 5 [1] (by decide)).2.2 a).symm.trans
    (by simp)

/-- a grammar with nullable nonterminals (`reads` and `includes` both non-empty):
    `S' → S ; S → A B ; A → a | ε ; B → b | ε` with terminals `$`=1, `a`=2, `b`=3 and
    nonterminals `S`=4, `A`=5, `B`=6 -/
def nuG : Grammar :=
  { nT := 3, rules := [⟨0, [4]⟩, ⟨4, [5, 6]⟩, ⟨5, [2]⟩, ⟨5, []⟩, ⟨6, [3]⟩, ⟨6, []⟩] }

def nuA : Auto :=
  { items := [[⟨0,0⟩, ⟨1,0⟩, ⟨2,0⟩, ⟨3,0⟩], [⟨0,1⟩], [⟨1,1⟩, ⟨4,0⟩, ⟨5,0⟩], [⟨2,1⟩], [⟨1,2⟩],
              [⟨4,1⟩]],
    gotos := [[(4,1), (5,2), (2,3)], [], [(6,4), (3,5)], [], [], []] }

example : gramWF nuG 7 = true ∧ certA nuG nuA = true ∧ certCanon nuG nuA = true ∧
    prodOK nuG 7 = true ∧ dpStartOK nuG nuA = true := by decide +kernel

/-- `(0, A) reads (2, B)`; `(0, A) includes (0, S)` and `(2, B) includes (0, S)` (transition indices
    0 = `(0, S)`, 1 = `(0, A)`, 5 = `(2, B)`) -/
example : (stages nuG 7 nuA).map (fun st => (st.reads, st.includes)) =
    some ([(1, 5)], [(1, 0), (5, 0)]) := by decide +kernel

example : laLinesDP nuG 7 nuA =
    some [(0, 3, [1, 3]), (1, 0, [1]), (2, 5, [1]), (3, 2, [1, 3]), (4, 1, [1]), (5, 4, [1])] := by
  decide +kernel

example : laLinesDP nuG 7 nuA = (laL nuG 7 nuA).map (laLines nuG nuA) := by decide +kernel

/-! ## `dpStartOK` is needed

The same automaton with the goto list of state 0 stored in another order (`L` first): all the other
hypotheses hold, but `$` is appended to the `DR` set of `(0, L)` instead of `(0, S)`, and the
computed lookahead sets are wrong (`S → R ·` in state 3 and `S → L = R ·` in state 9 get no
lookahead at all). -/

def laA' : Auto :=
  { items := laA.items,
    gotos := [[(6,2), (5,1), (7,3), (3,4), (4,5)], [], [(2,6)], [], [(3,4), (7,7), (4,5), (6,8)],
              [], [(7,9), (3,4), (4,5), (6,8)], [], [], []] }

example : gramWF laG 8 = true ∧ certA laG laA' = true ∧ certCanon laG laA' = true ∧
    prodOK laG 8 = true ∧ dpStartOK laG laA' = false := by decide +kernel

example : laLinesDP laG 8 laA' =
    some [(1, 0, [1]), (2, 5, []), (3, 2, []), (5, 4, [1, 2]), (7, 3, [1, 2]), (8, 5, [1, 2]),
          (9, 1, [])] ∧
    laLinesDP laG 8 laA' ≠ (laL laG 8 laA').map (laLines laG laA') := by decide +kernel

/-! ## `certCanon` is needed (`certA` alone is not enough)

`S' → S ; S → x ; A → A y | z` (`$`=1, `x`=2, `y`=3, `z`=4, `S`=5, `A`=6) with an "automaton" whose
state 0 holds the closure item `A → · A y`, justified only by itself: `gramWF`, `certA`, `prodOK`,
`dpStartOK` all hold, the DeRemer–Pennello computation attaches the lookahead `y` to the reduction
`A → A y ·` in state 4 (it reads `y` after the transition `(0, A)`), but no LALR(1) fact exists for
that item (no LR(1) state contains it).  `certCanon` rejects the automaton. -/

def cxG : Grammar := { nT := 4, rules := [⟨0, [5]⟩, ⟨5, [2]⟩, ⟨6, [6, 3]⟩, ⟨6, [4]⟩] }

def cxA : Auto :=
  { items := [[⟨0,0⟩, ⟨1,0⟩, ⟨2,0⟩], [⟨0,1⟩], [⟨1,1⟩], [⟨2,1⟩], [⟨2,2⟩]],
    gotos := [[(5,1), (2,2), (6,3)], [], [], [(3,4)], []] }

example : gramWF cxG 7 = true ∧ certA cxG cxA = true ∧ prodOK cxG 7 = true ∧
    dpStartOK cxG cxA = true ∧ certCanon cxG cxA = false := by decide +kernel

example : laLinesDP cxG 7 cxA = some [(1, 0, [1]), (2, 1, [1]), (4, 2, [3])] := by decide +kernel

/-- on `cxA` only items of rules 0 and 1 ever carry an LALR(1) fact: the closure from `S' → · S` and
    `S → · x` never reaches the `A`-rules -/
theorem cx_LA {q : Nat} {it : Item} {a : Sym} (h : LA cxG cxA.goto q it a) : it.r ≤ 1 := by
  induction h with
  | init => exact Nat.zero_le _
  | clos q r d b r' a _ hs ih =>
    obtain ⟨rl, rl', hr, hr', hx, _⟩ := hs
    simp only at ih ⊢
    have hlt : r' < 4 := rule_lt hr'
    have hl : rl'.lhs = 5 := by
      rcases (by omega : r = 0 ∨ r = 1) with rfl | rfl
      · simp [cxG] at hr; subst hr
        cases d with
        | zero => simpa using hx.symm
        | succ d => simp at hx
      · simp [cxG] at hr; subst hr
        cases d with
        | zero =>
          simp at hx
          rcases (by omega : r' = 0 ∨ r' = 1 ∨ r' = 2 ∨ r' = 3) with rfl | rfl | rfl | rfl <;>
            simp [cxG] at hr' <;> subst hr' <;> simp at hx
        | succ d => simp at hx
    rcases (by omega : r' = 0 ∨ r' = 1 ∨ r' = 2 ∨ r' = 3) with rfl | rfl | rfl | rfl
    · exact Nat.zero_le _
    · exact Nat.le_refl _
    · simp [cxG] at hr'; subst hr'; simp at hl
    · simp [cxG] at hr'; subst hr'; simp at hl
  | goto q r d b rl X p _ _ _ _ ih => exact ih

/-- the lookahead `y` computed for `(4, A → A y ·)` is not an LALR(1) lookahead -/
example : ¬ LA cxG cxA.goto 4 ⟨2, 2⟩ 3 := fun h => absurd (cx_LA h) (by decide)

end Y.Props

#print axioms Y.Props.C03_dp_declarative
#print axioms Y.Props.C03_dp_read
#print axioms Y.Props.C03_dp_follow
#print axioms Y.Props.C03_dp_la
#print axioms Y.Props.C03_dp_exact
#print axioms Y.Props.C03_dp_exact_with
#print axioms Y.Props.C03_dp_lr1
#print axioms Y.Props.C03_dp_lines
#print axioms Y.Props.C03_dp_eq_laL
