import Yv.Proofs.ResolveTie
import Yv.Props.C01gen
/-! The resolution function the verified table generator is instantiated with (`Core.pairWinner`) IS the
    Go text of `ResolveConflict` / `UseDefaultResolveConflict` as translated from LALR/Table.go on every
    run (`Yv/Gen/Resolve.lean`): so `genTableL Core.pairWinner` is the generator with the implementation's
    own conflict resolution.  Kept apart from `C01gen.lean` so that only these statements depend on the
    regenerated file. -/
namespace Y.Props
open Y Y.D Y.GT
open Core (Action)

/-- `Core.pairWinner` is the Go text: `ResolveConflict` — and `UseDefaultResolveConflict` when it
    returns an error — as translated mechanically from LALR/Table.go (`Yv/Gen/Resolve.lean`) -/
theorem C01_pairWinner_is_go (a b : Action) :
    Core.pairWinner a b = ofGen (goWinner (toGen a) (toGen b)) := pairWinner_eq_go a b

/-- hence the translated Go resolution is a selection too, and the generator instantiated with it
    is the generator instantiated with `Core.pairWinner` -/
theorem C01_goRes_sel : ResSel goRes := pairWinner_eq_goRes ▸ pairWinner_sel

theorem genTableL_goRes (G : Grammar) (nS : Nat) (P : PrecData) (A : Auto) (t : LATab) :
    genTableL goRes G nS P A t = genTableL Core.pairWinner G nS P A t := by
  rw [pairWinner_eq_goRes]

end Y.Props

#print axioms Y.Props.C01_pairWinner_is_go
#print axioms Y.Props.C01_goRes_sel
#print axioms Y.Props.genTableL_goRes
