import Yv.Props.EndToEnd
import Yv.Props.EndToEndTerm
import Yv.Props.C08c
/-! # End to end, TypeScript: the TEXT of the generated TypeScript parser on the DENSE table

`EndToEnd.lean` / `EndToEndTerm.lean` compose the pipeline theorems with the translated Go `Parser`
texts (through the packed lookup).  Here the same is done for the translated TypeScript `Parser`
(`Gen.Ts.parser`, interpreter `TsSem`, refinement `C08c`):

    grammar ──buildL──▶ automaton ──laL──▶ lookaheads ──genTableL──▶ dense table T
    `Parser` text of `Builder/TsGenCode.go` (interpreter `TsSem`) ≈ `arun` = list driver `run`   (C08c, C08)

* **The parameter set.**  `TsSem` takes the SAME `Y.D.Params` as the list driver; `state.Action(k)`
  is `P.L state.Yystate k`.  The TypeScript emitter always writes the dense table
  (`StateActionArray[this.Yystate][a]`), so the parameter set is `dparams` itself (`tsParams`): there
  is no packing stage and NO `DenseWF` hypothesis, only the pipeline's own (`gramWF`, `buildL`,
  `laL`, `ResSel`).
* **The start state** `TsStart K w m0`: `StackRel m0 (initGlobal K.undefV)`, input `w`, nothing
  requested or reduced; heap, local variables, `console.error` count arbitrary.  It is what the
  translated `initialize()` and the module tail `initialize();` establish from ANY machine state.
  The bottom value of the list driver is `K.undefV` (`undefined`).
* **Monotonicity in the loop fuel** is proved for the whole statement language by structural
  recursion, with EQUAL machine states, heap included: `OutRel` is a relation (`Final` does not
  determine the heap), so stability of the result does not follow from the stability of `arun`.
* **How this differs from Go** (`TsEndsAs` against `GoEndsAs`): the Go text `panic`s (`Res.err`), the
  TypeScript text RETURNS `null`, so "syntax error" is recognised by `errs` incremented exactly once
  — never the silent `null` of the two guards — and the statements carry `Final` (the machine is
  related to the model configuration, not equal to an image of it).
* **C15**: without `initialize()` in between, a second call is the model's run from the stack the
  first call left; with it, a start state again. -/
namespace Y.Props
open Y Y.D Y.GT Y.AD TsSem C08c Y.Term
open Core (Action)

theorem iterate_mono {V : Type} (iter iter' : M V → Res V)
    (hi : ∀ m, iter m ≠ .outOfFuel → iter' m = iter m) :
    ∀ (fuel : Nat) (m : M V), iterate iter fuel m ≠ .outOfFuel → ∀ fuel', fuel ≤ fuel' →
      iterate iter' fuel' m = iterate iter fuel m
  | 0, _, h, _, _ => absurd rfl h
  | k + 1, m, h, k' + 1, hk => by
    simp only [iterate] at h ⊢
    rw [hi m fun e => h (by rw [e])]
    cases hs : iter m with
    | norm m' => exact iterate_mono iter iter' hi k m' (by rwa [hs] at h) k' (by omega)
    | _ => rfl

/- only `ite` and `loop` run statement lists; a part that ran out of fuel makes the whole do so
   (`leave` and the sequencing pass `outOfFuel` on), so the hypothesis reaches the parts -/
mutual
theorem exec_mono {V : Type} (P : Params V) (K : Consts V) (X : Ext V) (fuel fuel' : Nat) (hf : fuel ≤ fuel') :
    ∀ (s : Gen.Ts.Stmt) (m : M V), exec P K X fuel m s ≠ .outOfFuel →
      exec P K X fuel' m s = exec P K X fuel m s
  | .ite c t e, m, h => by
    simp only [exec] at h ⊢
    split
    · rename_i b m1 hc
      simp only [hc] at h
      cases b <;> simp only [Bool.false_eq_true, ↓reduceIte] at h ⊢
      · rw [execs_mono P K X fuel fuel' hf e m1 fun e => h (by rw [e]; rfl)]
      · rw [execs_mono P K X fuel fuel' hf t m1 fun e => h (by rw [e]; rfl)]
    · rfl
  | .loop body, m, h => by
    simp only [exec] at h ⊢
    exact iterate_mono _ _ (fun m' hm => by
      rw [execs_mono P K X fuel fuel' hf body m' fun e => hm (by rw [e]; rfl)]) fuel m h fuel' hf
  | .expr e, m, _ | .decl _ x _ ini, m, _ | .assign lhs e, m, _ | .subAssign lhs e, m, _
  | .inc lhs, m, _ | .brk, m, _ | .ret e, m, _ | .switchHole e, m, _ => by simp only [exec]
theorem execs_mono {V : Type} (P : Params V) (K : Consts V) (X : Ext V) (fuel fuel' : Nat) (hf : fuel ≤ fuel') :
    ∀ (l : List Gen.Ts.Stmt) (m : M V), execs P K X fuel m l ≠ .outOfFuel →
      execs P K X fuel' m l = execs P K X fuel m l
  | [], m, _ => by simp only [execs]
  | s :: r, m, h => by
    simp only [execs] at h ⊢
    rw [exec_mono P K X fuel fuel' hf s m fun e => h (by rw [e])]
    cases hs : exec P K X fuel m s with
    | norm m1 => exact execs_mono P K X fuel fuel' hf r m1 (by rwa [hs] at h)
    | _ => rfl
end

/-- the translated `Parser` text of the TypeScript back end, called (with some string) in the
    machine state `m0`; `fuel` bounds the iterations of its `while (true)` loop -/
def tsParser {V : Type} (P : Params V) (K : Consts V) (fuel : Nat) (m0 : M V) : Res V :=
  invoke P K (extP P K) fuel Gen.Ts.parser [.str] m0

/-- the parameters of the TypeScript parser: `TsSem` is parametrised by the SAME structure
    `Y.D.Params` as the list driver, and the TypeScript emitter always writes the dense table
    (`Action(x)` is `StateActionArray[this.Yystate][x]`), so the parameter set is `dparams` itself:
    no packed lookup and no `DenseWF` hypothesis in between -/
abbrev tsParams {V : Type} (G : Grammar) (T : Dense) (n : Nat) (sem : Nat → List V → V) (eofVal : V) :
    Params V := dparams G T n sem eofVal

theorem tsParams_L {V : Type} (G : Grammar) (T : Dense) (n : Nat) (sem : Nat → List V → V) (eofVal : V)
    (q a : Nat) : (tsParams G T n sem eofVal).L q a = (T[q]?).bind (fun row => row[a]?) := rfl

/-- … and that is what the interpreter answers for `state.Action(k)` (`state` a reference to a
    `StateSym` cell with `Yystate = st`): the cell `T[st][k]`; no such cell, a negative `st` or `k`:
    TypeError -/
theorem ts_action_dense {V : Type} (G : Grammar) (T : Dense) (n : Nat) (sem : Nat → List V → V) (eofVal : V)
    (X : Ext V) (m : M V) (a : Nat) (st sy k : Int) (x : V) (ha : m.heap[a]? = some (.sym st sy x))
    (hst : 0 ≤ st) (hk : 0 ≤ k) :
    callFn (tsParams G T n sem eofVal) X .Action (some (.ref a)) [.num k] m =
      match cell T st.toNat k.toNat with
      | some c => .ok (.num c) m
      | none => .crash := by
  simp only [callFn, ha, hst, hk, and_self, ↓reduceIte, dparams]
  cases cell T st.toNat k.toNat <;> rfl

/-- the state in which the theorems below call `Parser`: the stack is the one `initialize()`
    builds (one `StateSym(0,1)`, pointer 1), the input `w` is still to be fetched, nothing has been
    requested or reduced.  Heap, local variables and the `console.error` count are arbitrary. -/
structure TsStart {V : Type} (K : Consts V) (w : List (Sym × V)) (m0 : M V) : Prop where
  stack : StackRel m0 (initGlobal K.undefV)
  input : m0.input = w
  req : m0.req = 0
  reds : m0.reds = []

/-- `initialize()` establishes it, whatever array and pointer the module variables held … -/
theorem tsStart_initialize {V : Type} (P : Params V) (K : Consts V) (fuel : Nat) (m : M V)
    (w : List (Sym × V)) (hin : m.input = w) (hreq : m.req = 0) (hreds : m.reds = []) :
    ∃ m0, invoke P K ext0 fuel Gen.Ts.initialize [] m = .norm m0 ∧ TsStart K w m0 ∧
      m0.errs = m.errs ∧ m0.env = m.env :=
  ⟨_, (init_ts_eq P K fuel m).1, ⟨(init_ts_eq P K fuel m).2, hin, hreq, hreds⟩, rfl, rfl⟩

/-- … and so do the statements at the end of the generated module (`initialize();`) -/
theorem tsStart_load {V : Type} (P : Params V) (K : Consts V) (fuel : Nat) (m : M V)
    (w : List (Sym × V)) (hin : m.input = w) (hreq : m.req = 0) (hreds : m.reds = []) :
    ∃ m0, execs P K (extP P K) fuel m Gen.Ts.moduleTail = .norm m0 ∧ TsStart K w m0 ∧
      m0.errs = m.errs ∧ m0.env = m.env :=
  ⟨_, (load_ts_eq P K fuel m).1, ⟨(load_ts_eq P K fuel m).2, hin, hreq, hreds⟩, rfl, rfl⟩

/-- The result `r` of the translated TypeScript `Parser`, called in the state `m0`, against the
    outcome `O` of the list driver: `accept v` ↦ `return state.ValType`, `syntaxError` ↦ ONE
    `console.error` and `return null`, `crash` ↦ TypeError, out of fuel alike; the machine state is
    related (`Final`) to a configuration `c` of the array driver above `O`'s.  The silent `return
    null` of the two guards has no counterpart.  Every end-to-end statement about the TypeScript
    text is read off this relation (by `cases`) and a theorem about the list driver. -/
inductive TsEndsAs {V : Type} (m0 : M V) : Res V → Outcome V → Prop
  | accept (v : V) (c : ACfg V) (m : M V) (hf : Final m0 c m) (he : m.errs = m0.errs) :
    TsEndsAs m0 (.ret (.val v) m) (.accept v (absCfg c))
  | syntaxError (c : ACfg V) (m : M V) (hf : Final m0 c m) (he : m.errs = m0.errs + 1) :
    TsEndsAs m0 (.ret .null m) (.syntaxError (absCfg c))
  | crash : TsEndsAs m0 .crash .crash
  | outOfFuel : TsEndsAs m0 .outOfFuel .outOfFuel

namespace TsEndsAs
variable {V : Type} {m0 : M V} {r : Res V} {O : Outcome V}

theorem intro {cl : ACfg V} {o : AOutcome V} (ho : OutRel m0 cl r o) (h : absOutcome o = some O) :
    TsEndsAs m0 r O := by
  cases o <;> cases h
  · obtain ⟨m, rfl, hf, he⟩ := ho; exact .accept _ _ m hf he
  · obtain ⟨m, rfl, hf, he⟩ := ho; exact .syntaxError _ m hf he
  · cases ho; exact .crash
  · cases ho; exact .outOfFuel

theorem val_iff (h : TsEndsAs m0 r O) :
    (∃ v m, r = .ret (.val v) m) ↔ ∃ v c', O = .accept v c' := by
  cases h <;> simp

theorem of_accept {v : V} {c' : D.Cfg V} (h : TsEndsAs m0 r (.accept v c')) :
    ∃ m, r = .ret (.val v) m ∧ m.errs = m0.errs := by
  cases h with | accept _ _ m _ he => exact ⟨m, rfl, he⟩

theorem of_syntaxError {c' : D.Cfg V} (h : TsEndsAs m0 r (.syntaxError c')) :
    ∃ c m, absCfg c = c' ∧ r = .ret .null m ∧ Final m0 c m ∧ m.errs = m0.errs + 1 := by
  cases h with | syntaxError c m hf he => exact ⟨c, m, rfl, rfl, hf, he⟩

end TsEndsAs

/-- **Composition** (C08c ∘ C08) for an arbitrary parameter set: from a start state the translated
    `Parser` ends as the list driver does -/
theorem parser_ts_list {V : Type} (P : Params V) (K : Consts V) (fuel : Nat) (m0 : M V)
    (w : List (Sym × V)) (hs : TsStart K w m0) :
    TsEndsAs m0 (tsParser P K fuel m0) (run P fuel (init K.undefV w)) :=
  have h := parser_ts_init P K fuel m0 w hs.stack hs.input hs.req hs.reds
  .intro h.1 h.2.1

/-- an answer other than `outOfFuel` is the answer for every larger bound on the loop iterations
    (all parameters, all machine states) -/
theorem tsParser_mono {V : Type} (P : Params V) (K : Consts V) (fuel : Nat) (m0 : M V)
    (h : tsParser P K fuel m0 ≠ .outOfFuel) (fuel' : Nat) (hf : fuel ≤ fuel') :
    tsParser P K fuel' m0 = tsParser P K fuel m0 := by
  unfold tsParser invoke at h ⊢
  rw [execs_mono P K _ fuel fuel' hf _ _ fun e => h (by rw [e])]

/-- what `Final` says about the ghost counters of the machine, for a configuration of the model
    with `req + |rest| = |w| + 1`: either the offending token is the current lookahead (it was
    taken off the input, nothing was requested after it) or the input is used up -/
theorem final_counts {V : Type} {m0 m : M V} {c : ACfg V} {len : Nat} (hf : Final m0 c m)
    (hc : c.req + c.rest.length = len + 1) :
    m.req + m.input.length = len ∨ (m.req = len + 1 ∧ m.input = []) := by
  rw [hf.req, hf.input]
  cases hrest : c.rest with
  | nil => rw [hrest] at hc; exact .inr ⟨by simpa using hc, rfl⟩
  | cons x tl =>
    rw [hrest] at hc
    simp only [List.length_cons] at hc
    exact .inl (by simp only [List.tail_cons]; omega)

section transfer
variable {V : Type} {G : Grammar} {nS : Nat} {A : Auto} {T : Dense} {sem : Nat → List V → V}
  {eofVal bv : V} {w : List (Sym × V)} {m0 : M V} (hC : Certified G nS A T)
include hC

theorem C01_ts_of_outcome (hw : ∀ x ∈ w, x.1 ≤ G.nT ∧ x.1 ≠ 1) {fuel : Nat} {r : Res V}
    (h : TsEndsAs m0 r (run (dparams G T A.n sem eofVal) fuel (init bv w)))
    {v : V} {m : M V} (hrun : r = .ret (.val v) m) :
    ∃ rl0, G.rules[0]? = some rl0 ∧ rl0.lhs = 0 ∧
      RmDer G rl0.rhs m.reds (w.map Prod.fst) ∧ m.input = [] ∧ m.req = w.length + 1 ∧
      m.errs = m0.errs ∧ m.env = m0.env := by
  subst hrun
  generalize hO : run _ _ _ = O at h
  cases h with | accept _ c _ hf he =>
  obtain ⟨rl0, h0, hl, hder, hrest, hreq⟩ :=
    C01_sound G nS A T sem eofVal bv hC.gram hC.auto hC.table w hw fuel v _ hO
  exact ⟨rl0, h0, hl, hf.reds ▸ hder, hf.input.trans (congrArg List.tail hrest), hf.req.trans hreq,
    he, hf.env⟩

theorem C06_ts_of_outcome (hw : ∀ x ∈ w, x.1 ≤ G.nT ∧ x.1 ≠ 1) {fuel : Nat} {r : Res V}
    (h : TsEndsAs m0 r (run (dparams G T A.n sem eofVal) fuel (init bv w))) :
    r ≠ .crash ∧ (∀ m, r ≠ .norm m) ∧ (∀ m, r ≠ .brk m) ∧
    (∀ x m, r = .ret x m → (∃ v, x = .val v ∧ m.errs = m0.errs) ∨ x = .null) ∧
    ∀ m, r = .ret .null m → m.errs = m0.errs + 1 ∧ m.env = m0.env ∧
      (m.req + m.input.length = w.length ∨ (m.req = w.length + 1 ∧ m.input = [])) ∧
      ∃ c, Final m0 c m ∧ c.req + c.rest.length = w.length + 1 := by
  obtain ⟨hnc, herr⟩ := C06_safe G nS A T sem eofVal bv hC.gram hC.auto hC.table w hw fuel
  generalize hO : run _ _ _ = O at h
  cases h with
  | accept v c m hf he =>
    refine ⟨by simp, by simp, by simp, fun x m' e => ?_, by simp⟩
    cases e
    exact .inl ⟨v, rfl, he⟩
  | syntaxError c m hf he =>
    have hc := herr _ hO
    refine ⟨by simp, by simp, by simp, fun x m' e => ?_, fun m' e => ?_⟩ <;> cases e
    · exact .inr rfl
    · exact ⟨he, hf.env, final_counts hf hc, c, hf, hc⟩
  | crash => exact absurd hO hnc
  | outOfFuel => simp

/-- for a family `r fuel` of results that is stable once halted: within `termBound F |w|` loop
    iterations the call ends, by a value or by ONE `console.error` and `null` -/
theorem terminates_ts_of_outcome {F : Nat}
    (hF : certTerm G T A.n F = true)
    (hw : ∀ x ∈ w, x.1 ≤ G.nT ∧ x.1 ≠ 1) {r : Nat → Res V}
    (hr : ∀ fuel, TsEndsAs m0 (r fuel)
      (run (dparams G T A.n sem eofVal) fuel (init bv w)))
    (hmono : ∀ fuel, r fuel ≠ .outOfFuel → ∀ fuel', fuel ≤ fuel' → r fuel' = r fuel) :
    ∃ fuel, fuel ≤ termBound F w.length ∧
      r fuel ≠ .outOfFuel ∧ r fuel ≠ .crash ∧
      ((∃ v m, r fuel = .ret (.val v) m ∧ m.errs = m0.errs) ∨
       ∃ m c, r fuel = .ret .null m ∧ m.errs = m0.errs + 1 ∧ Final m0 c m ∧
         c.req + c.rest.length = w.length + 1) ∧
      ∀ fuel', fuel ≤ fuel' → r fuel' = r fuel := by
  obtain ⟨fuel, hle, hd⟩ := run_halts hC (sem := sem) (eofVal := eofVal) (bv := bv) hF hw
  refine ⟨fuel, hle, ?_⟩
  have h := hr fuel
  have hm := hmono fuel
  rcases hd with ⟨v, c', hO⟩ | ⟨c', hO, hc⟩ <;> rw [hO] at h
  · obtain ⟨m, e, he⟩ := h.of_accept
    rw [e] at hm ⊢
    exact ⟨nofun, nofun, .inl ⟨v, m, rfl, he⟩, hm nofun⟩
  · obtain ⟨c, m, rfl, e, hf, he⟩ := h.of_syntaxError
    rw [e] at hm ⊢
    exact ⟨nofun, nofun, .inr ⟨m, c, rfl, he, hf, hc⟩, hm nofun⟩

/-- … and with the LALR(1) hypothesis: from the bound on, the result is a value exactly for the
    sentences -/
theorem decides_ts_of_outcome {S₀ : Sym} (h0 : G.rules[0]? = some ⟨0, [S₀]⟩) {F : Nat}
    (hF : certTerm G T A.n F = true) (hw : ∀ x ∈ w, x.1 ≤ G.nT ∧ x.1 ≠ 1)
    (h02 : (∃ fuel v c', run (dparams G T A.n sem eofVal) fuel (init bv w) = .accept v c') ↔
      GenL G [S₀] (w.map Prod.fst)) {r : Nat → Res V}
    (hr : ∀ fuel, TsEndsAs m0 (r fuel) (run (dparams G T A.n sem eofVal) fuel (init bv w))) :
    ∃ fuel, fuel ≤ termBound F w.length ∧ ∀ fuel', fuel ≤ fuel' →
      ((∃ v m, r fuel' = .ret (.val v) m) ↔ GenL G [S₀] (w.map Prod.fst)) ∧
      (GenL G [S₀] (w.map Prod.fst) → ∃ v m, r fuel' = .ret (.val v) m ∧
        RmDer G [S₀] m.reds (w.map Prod.fst) ∧ m.input = [] ∧ m.req = w.length + 1 ∧
        m.errs = m0.errs) ∧
      (¬ GenL G [S₀] (w.map Prod.fst) → ∃ m c, r fuel' = .ret .null m ∧ m.errs = m0.errs + 1 ∧
        Final m0 c m ∧ c.req + c.rest.length = w.length + 1) := by
  obtain ⟨fuel, hle, hd⟩ := run_decides hC hF hw h02
  refine ⟨fuel, hle, fun fuel' hf => ?_⟩
  obtain ⟨hiff, hno⟩ := hd fuel' hf
  have hv := (hr fuel').val_iff.trans hiff
  refine ⟨hv, fun hgen => ?_, fun hn => ?_⟩
  · obtain ⟨v, m, hrun⟩ := hv.mpr hgen
    obtain ⟨rl0, hr0, -, hder, hin, hreq, herrs, -⟩ :=
      C01_ts_of_outcome hC hw (hr fuel') hrun
    rw [h0] at hr0
    cases hr0
    exact ⟨v, m, hrun, hder, hin, hreq, herrs⟩
  · obtain ⟨c', hO, hc⟩ := hno hn
    obtain ⟨c, m, rfl, e, hf, he⟩ := (hO ▸ hr fuel').of_syntaxError
    exact ⟨m, c, e, he, hf, hc⟩

end transfer

section pipeline
variable {V : Type} (res : Action → Action → Action) (hR : ResSel res)
  (G : Grammar) (nS : Nat) (P : PrecData) (A : Auto) (t : LATab)
  (sem : Nat → List V → V) (eofVal bv : V) (K : Consts V)
  (hG : gramWF G nS = true) (hB : buildL G = some A) (hLa : laL G nS A = some t)
include hR hG hB hLa

/-- **C01, end to end (TypeScript).** For every well-formed grammar for which the verified
    generators return: if the translated `Parser`, called in the state `initialize()` establishes,
    returns a value, then the reductions it performed (most recent first) are a rightmost derivation
    of exactly the input from the start rule's body; all input was consumed, `|w|+1` tokens were
    requested, `console.error` was not called and the caller's variables are unchanged. -/
theorem C01_end_to_end_ts
    (w : List (Sym × V)) (hw : ∀ x ∈ w, x.1 ≤ G.nT ∧ x.1 ≠ 1) (fuel : Nat)
    (m0 : M V) (hs : TsStart K w m0) (v : V) (m : M V)
    (hrun : tsParser (tsParams G (genTableL res G nS P A t) A.n sem eofVal) K fuel m0 = .ret (.val v) m) :
    ∃ rl0, G.rules[0]? = some rl0 ∧ rl0.lhs = 0 ∧
      RmDer G rl0.rhs m.reds (w.map Prod.fst) ∧ m.input = [] ∧ m.req = w.length + 1 ∧
      m.errs = m0.errs ∧ m.env = m0.env :=
  C01_ts_of_outcome (pipeline_certified hR hG hB hLa) hw (parser_ts_list _ K fuel m0 w hs) hrun

/-- **C06, end to end (TypeScript).** On valid inputs the translated `Parser` never ends in a
    TypeError (`crash`: every `StateSymStack[i]` it dereferences is an entry, every
    `StateActionArray[q][a]` it reads is a cell, every reduce has its `case` and its handle on the
    stack); what it returns is a `ValType` (then nothing was printed) or `null`; and `null` is never
    silent: `console.error` was called exactly once (so the two guards at the head of the loop were
    not taken), at a configuration `c` of the model with `req + |rest| = |w| + 1` — nothing was
    requested from the lexer after the offending token. -/
theorem C06_end_to_end_ts
    (w : List (Sym × V)) (hw : ∀ x ∈ w, x.1 ≤ G.nT ∧ x.1 ≠ 1) (fuel : Nat)
    (m0 : M V) (hs : TsStart K w m0) :
    tsParser (tsParams G (genTableL res G nS P A t) A.n sem eofVal) K fuel m0 ≠ .crash ∧
    (∀ m, tsParser (tsParams G (genTableL res G nS P A t) A.n sem eofVal) K fuel m0 ≠ .norm m) ∧
    (∀ m, tsParser (tsParams G (genTableL res G nS P A t) A.n sem eofVal) K fuel m0 ≠ .brk m) ∧
    (∀ x m, tsParser (tsParams G (genTableL res G nS P A t) A.n sem eofVal) K fuel m0 = .ret x m →
      (∃ v, x = .val v ∧ m.errs = m0.errs) ∨ x = .null) ∧
    ∀ m, tsParser (tsParams G (genTableL res G nS P A t) A.n sem eofVal) K fuel m0 = .ret .null m →
      m.errs = m0.errs + 1 ∧ m.env = m0.env ∧
      (m.req + m.input.length = w.length ∨ (m.req = w.length + 1 ∧ m.input = [])) ∧
      ∃ c, Final m0 c m ∧ c.req + c.rest.length = w.length + 1 :=
  C06_ts_of_outcome (pipeline_certified hR hG hB hLa) hw (parser_ts_list _ K fuel m0 w hs)

/-- **C02, end to end (TypeScript).** For every LALR(1) grammar (no table cell with two
    candidates) and every string of terminals other than `$`: the translated `Parser` returns a
    value (for some bound on the number of loop iterations) iff the string is a sentence. -/
theorem C02_end_to_end_ts
    (hM : maxCandsL G nS P A t ≤ 1) (S₀ : Sym) (h0 : G.rules[0]? = some ⟨0, [S₀]⟩)
    (w : List (Sym × V)) (hwT : ∀ x ∈ w, G.isT x.1 = true ∧ x.1 ≠ 1)
    (m0 : M V) (hs : TsStart K w m0) :
    (∃ fuel v m, tsParser (tsParams G (genTableL res G nS P A t) A.n sem eofVal) K fuel m0
        = .ret (.val v) m) ↔ GenL G [S₀] (w.map Prod.fst) :=
  (exists_congr fun fuel => (parser_ts_list _ K fuel m0 w hs).val_iff).trans
    (C02_pipeline res hR G nS P A t sem eofVal K.undefV hG hB hLa hM S₀ h0 w hwT)

/-- **C06, end to end, termination (TypeScript).** If the table passes the termination
    certificate with `F` moves, then for every valid input there is a bound
    `fuel ≤ termBound F |w| = (|w|+1)·(1+|w|·F)·F` on the iterations of the `while (true)` loop with
    which the translated `Parser` is NOT out of fuel and did not end in a TypeError; it returned a
    value (nothing printed) or printed once and returned `null`, at the offending token; and every
    larger bound gives the same result (the same machine state, heap included). -/
theorem C06_end_to_end_terminates_ts (F : Nat)
    (hF : certTerm G (genTableL res G nS P A t) A.n F = true)
    (w : List (Sym × V)) (hw : ∀ x ∈ w, x.1 ≤ G.nT ∧ x.1 ≠ 1)
    (m0 : M V) (hs : TsStart K w m0) :
    ∃ fuel, fuel ≤ termBound F w.length ∧
      tsParser (tsParams G (genTableL res G nS P A t) A.n sem eofVal) K fuel m0 ≠ .outOfFuel ∧
      tsParser (tsParams G (genTableL res G nS P A t) A.n sem eofVal) K fuel m0 ≠ .crash ∧
      ((∃ v m, tsParser (tsParams G (genTableL res G nS P A t) A.n sem eofVal) K fuel m0 = .ret (.val v) m ∧
          m.errs = m0.errs) ∨
       ∃ m c, tsParser (tsParams G (genTableL res G nS P A t) A.n sem eofVal) K fuel m0 = .ret .null m ∧
          m.errs = m0.errs + 1 ∧ Final m0 c m ∧ c.req + c.rest.length = w.length + 1) ∧
      ∀ fuel', fuel ≤ fuel' →
        tsParser (tsParams G (genTableL res G nS P A t) A.n sem eofVal) K fuel' m0
          = tsParser (tsParams G (genTableL res G nS P A t) A.n sem eofVal) K fuel m0 :=
  terminates_ts_of_outcome (pipeline_certified hR hG hB hLa) hF hw
    (fun fuel => parser_ts_list _ K fuel m0 w hs)
    (fun fuel h fuel' hf => tsParser_mono _ K fuel m0 h fuel' hf)

/-- **The TypeScript text is a decision procedure.** For every LALR(1) grammar whose table passes
    the termination certificate and every string `w` of terminals other than `$`: there is a bound
    `fuel ≤ termBound F |w|` such that for EVERY bound `fuel' ≥ fuel` the translated `Parser`
    returns a value iff `w` is a sentence — then after reductions that are a rightmost derivation
    of `w`, all input consumed, nothing printed — and otherwise prints once and returns `null`,
    with `req + |rest| = |w| + 1`. -/
theorem C06_end_to_end_decides_ts
    (hM : maxCandsL G nS P A t ≤ 1) (S₀ : Sym) (h0 : G.rules[0]? = some ⟨0, [S₀]⟩) (F : Nat)
    (hF : certTerm G (genTableL res G nS P A t) A.n F = true)
    (w : List (Sym × V)) (hwT : ∀ x ∈ w, G.isT x.1 = true ∧ x.1 ≠ 1)
    (m0 : M V) (hs : TsStart K w m0) :
    ∃ fuel, fuel ≤ termBound F w.length ∧ ∀ fuel', fuel ≤ fuel' →
      ((∃ v m, tsParser (tsParams G (genTableL res G nS P A t) A.n sem eofVal) K fuel' m0
          = .ret (.val v) m) ↔ GenL G [S₀] (w.map Prod.fst)) ∧
      (GenL G [S₀] (w.map Prod.fst) →
        ∃ v m, tsParser (tsParams G (genTableL res G nS P A t) A.n sem eofVal) K fuel' m0
          = .ret (.val v) m ∧
        RmDer G [S₀] m.reds (w.map Prod.fst) ∧ m.input = [] ∧ m.req = w.length + 1 ∧
        m.errs = m0.errs) ∧
      (¬ GenL G [S₀] (w.map Prod.fst) →
        ∃ m c, tsParser (tsParams G (genTableL res G nS P A t) A.n sem eofVal) K fuel' m0
          = .ret .null m ∧ m.errs = m0.errs + 1 ∧
        Final m0 c m ∧ c.req + c.rest.length = w.length + 1) :=
  decides_ts_of_outcome (pipeline_certified hR hG hB hLa) h0 hF (isT_valid hwT)
    (C02_pipeline res hR G nS P A t sem eofVal K.undefV hG hB hLa hM S₀ h0 w hwT)
    fun fuel => parser_ts_list _ K fuel m0 w hs

/-- **with `initialize()` in between** the second call is in a start state again, so C01, C06 and
    C02 hold for it: here C01 and C06 spelled out for the state `m2` that the translated `initialize`
    leaves (`m1`: ANY machine state, e.g. the one the first call left; `recall`: the caller hands
    over the new input) -/
theorem C15_ts_reinit
    (m1 : M V) (w2 : List (Sym × V)) (hw2 : ∀ x ∈ w2, x.1 ≤ G.nT ∧ x.1 ≠ 1) :
    ∃ m2, invoke (tsParams G (genTableL res G nS P A t) A.n sem eofVal) K ext0 0 Gen.Ts.initialize []
        (recall m1 w2) = .norm m2 ∧
      TsStart K w2 m2 ∧ m2.errs = m1.errs ∧ m2.env = m1.env ∧
      ∀ fuel,
        tsParser (tsParams G (genTableL res G nS P A t) A.n sem eofVal) K fuel m2 ≠ .crash ∧
        (∀ v m, tsParser (tsParams G (genTableL res G nS P A t) A.n sem eofVal) K fuel m2 = .ret (.val v) m →
          ∃ rl0, G.rules[0]? = some rl0 ∧ rl0.lhs = 0 ∧
            RmDer G rl0.rhs m.reds (w2.map Prod.fst) ∧ m.input = [] ∧ m.req = w2.length + 1 ∧
            m.errs = m1.errs) ∧
        ∀ m, tsParser (tsParams G (genTableL res G nS P A t) A.n sem eofVal) K fuel m2 = .ret .null m →
          m.errs = m1.errs + 1 ∧ ∃ c, Final m2 c m ∧ c.req + c.rest.length = w2.length + 1 := by
  obtain ⟨m2, e, hs, (he : m2.errs = m1.errs), (hv : m2.env = m1.env)⟩ :=
    tsStart_initialize (tsParams G (genTableL res G nS P A t) A.n sem eofVal) K 0 (recall m1 w2) w2 rfl rfl rfl
  refine ⟨m2, e, hs, he, hv, fun fuel => ?_⟩
  have h6 := C06_end_to_end_ts res hR G nS P A t sem eofVal K hG hB hLa w2 hw2 fuel m2 hs
  refine ⟨h6.1, fun v m hrun => ?_, fun m hrun => ?_⟩
  · obtain ⟨rl0, a, b, c, d, e', f, -⟩ :=
      C01_end_to_end_ts res hR G nS P A t sem eofVal K hG hB hLa w2 hw2 fuel m2 hs v m hrun
    exact ⟨rl0, a, b, c, d, e', f.trans he⟩
  · obtain ⟨a, -, -, b⟩ := h6.2.2.2.2 m hrun
    exact ⟨by rw [a, he], b⟩

/-- … and it decides the language of the grammar on the second input as well -/
theorem C15_ts_reinit_decides
    (hM : maxCandsL G nS P A t ≤ 1) (S₀ : Sym) (h0 : G.rules[0]? = some ⟨0, [S₀]⟩) (F : Nat)
    (hF : certTerm G (genTableL res G nS P A t) A.n F = true)
    (m1 : M V) (w2 : List (Sym × V)) (hwT : ∀ x ∈ w2, G.isT x.1 = true ∧ x.1 ≠ 1) :
    ∃ m2, invoke (tsParams G (genTableL res G nS P A t) A.n sem eofVal) K ext0 0 Gen.Ts.initialize []
        (recall m1 w2) = .norm m2 ∧
      ∃ fuel, fuel ≤ termBound F w2.length ∧ ∀ fuel', fuel ≤ fuel' →
        ((∃ v m, tsParser (tsParams G (genTableL res G nS P A t) A.n sem eofVal) K fuel' m2
            = .ret (.val v) m) ↔ GenL G [S₀] (w2.map Prod.fst)) ∧
        (¬ GenL G [S₀] (w2.map Prod.fst) →
          ∃ m, tsParser (tsParams G (genTableL res G nS P A t) A.n sem eofVal) K fuel' m2
            = .ret .null m ∧ m.errs = m1.errs + 1) := by
  obtain ⟨m2, e, hs, (he : m2.errs = m1.errs), -⟩ :=
    tsStart_initialize (tsParams G (genTableL res G nS P A t) A.n sem eofVal) K 0 (recall m1 w2) w2 rfl rfl rfl
  obtain ⟨fuel, hle, h⟩ :=
    C06_end_to_end_decides_ts res hR G nS P A t sem eofVal K hG hB hLa hM S₀ h0 F hF w2 hwT m2 hs
  refine ⟨m2, e, fuel, hle, fun fuel' hf => ⟨(h fuel' hf).1, fun hn => ?_⟩⟩
  obtain ⟨m, c, hr, hm, -⟩ := (h fuel' hf).2.2 hn
  exact ⟨m, hr, by rw [hm, he]⟩

end pipeline

/-- **without `initialize()` in between** (any parameter set, hence the pipeline's): whatever
    the first call returned, it left the stack of the configuration `c1` in which the run of the
    model ended (after an accept: the bottom entry and the entry of the start symbol; after a
    syntax error: whatever was on the stack), and the second call is the run of the model from THAT
    stack — `ainit c1.stack w2`, not `ainit (initGlobal …) w2`; the theorems above say nothing about it
    (`ex_ts_second` below: an accepted input is rejected the second time) -/
theorem C15_ts_second_call {V : Type} (P : Params V) (K : Consts V) (fuel1 fuel2 : Nat) (m0 : M V)
    (w1 w2 : List (Sym × V)) (hs : TsStart K w1 m0) (x : Val V) (m1 : M V)
    (h1 : tsParser P K fuel1 m0 = .ret x m1) :
    ∃ c1, ((∃ v, x = .val v ∧ arun P fuel1 (ainit (initGlobal K.undefV) w1) = .accept v c1) ∨
           (x = .null ∧ arun P fuel1 (ainit (initGlobal K.undefV) w1) = .syntaxError c1)) ∧
      Final m0 c1 m1 ∧ StackRel (recall m1 w2) c1.stack ∧
      OutRel (recall m1 w2) (alast P fuel2 (ainit c1.stack w2))
        (tsParser P K fuel2 (recall m1 w2)) (arun P fuel2 (ainit c1.stack w2)) := by
  obtain ⟨ho, -, hnil⟩ := parser_ts_init P K fuel1 m0 w1 hs.stack hs.input hs.req hs.reds
  rw [show invoke P K (extP P K) fuel1 Gen.Ts.parser [.str] m0 = .ret x m1 from h1] at ho
  revert ho hnil
  cases arun P fuel1 (ainit (initGlobal K.undefV) w1) with
  | accept v c1 =>
    rintro ⟨m', e, hf, -⟩ -
    cases e
    exact ⟨c1, .inl ⟨v, rfl, rfl⟩, hf, hf.stack, parser_ts_second P K fuel2 m0 _ c1 w2 hf⟩
  | syntaxError c1 =>
    rintro ⟨m', e, hf, -⟩ -
    cases e
    exact ⟨c1, .inr ⟨rfl, rfl⟩, hf, hf.stack, parser_ts_second P K fuel2 m0 _ c1 w2 hf⟩
  | crash | outOfFuel => intro ho; cases ho
  | nil => intro _ hnil; exact absurd rfl hnil

/-! ## Non-vacuity: `S' → S ; S → a S | b` (`exG`, table `exT`, 5 states, `F = 3`)

`ex_pipeline` (the verified pipeline returns `exT` on `exG`, no cell has two candidates) and
`ex_certTerm` discharge every hypothesis; the start state exists (`exTs0`, what the module tail
leaves of the empty machine).  No `DenseWF` is needed: the TypeScript text reads the dense table. -/

def KU : Consts Unit := { undefV := (), emptyV := () }

abbrev exTsP : Params Unit := tsParams exG exT 5 (fun _ _ => ()) ()

/-- the module's variables before `initialize();` runs -/
def exTsEmpty (w : List (Sym × Unit)) : M Unit :=
  { heap := [], arr := [], sp := 0, env := [], input := w, req := 0, reds := [], errs := 0 }

/-- … and after: one `StateSym(0,1)` on the heap, `StateSymStack = [ref 0]`, pointer 1 -/
def exTs0 (w : List (Sym × Unit)) : M Unit :=
  { heap := [.sym 0 1 ()], arr := [0], sp := 1, env := [], input := w, req := 0, reds := [], errs := 0 }

theorem exTs0_load (w : List (Sym × Unit)) (fuel : Nat) :
    execs exTsP KU (extP exTsP KU) fuel (exTsEmpty w) Gen.Ts.moduleTail = .norm (exTs0 w) :=
  (load_ts_eq exTsP KU fuel (exTsEmpty w)).1

theorem exTs0_start (w : List (Sym × Unit)) : TsStart KU w (exTs0 w) :=
  ⟨(load_ts_eq exTsP KU 0 (exTsEmpty w)).2, rfl, rfl, rfl⟩

/-- **instance of `C01_end_to_end_ts`**: on every input over the codes `0, 2, 3` (unknown, `a`, `b`),
    in every start state, a value returned by the translated `Parser` on the dense table `exT`
    comes with a rightmost derivation of the input from `S` (symbol 4) -/
theorem ex_ts_sound (w : List (Sym × Unit)) (hw : ∀ x ∈ w, x.1 ≤ 3 ∧ x.1 ≠ 1) (fuel : Nat)
    (m0 : M Unit) (hs : TsStart KU w m0) (v : Unit) (m : M Unit)
    (hrun : tsParser exTsP KU fuel m0 = .ret (.val v) m) :
    RmDer exG [4] m.reds (w.map Prod.fst) ∧ m.input = [] ∧ m.req = w.length + 1 ∧ m.errs = m0.errs := by
  obtain ⟨A, t, hB, hL, hT, hM, hn⟩ := ex_pipeline
  have := C01_end_to_end_ts Core.pairWinner C01_pairWinner_sel exG 5 noPrec A t
    (fun _ _ => ()) () KU (by decide) hB hL w hw fuel m0 hs v m (by rw [hT, hn]; exact hrun)
  obtain ⟨rl0, h0, -, hder, hin, hreq, he, -⟩ := this
  have e0 : exG.rules[0]? = some ⟨0, [4]⟩ := rfl
  rw [e0] at h0
  cases h0
  exact ⟨hder, hin, hreq, he⟩

/-- **instance of `C06_end_to_end_terminates_ts`**: in every start state the translated `Parser` on
    `exT` halts within `(|w|+1)·(1+3|w|)·3` loop iterations, with a value or with one
    `console.error` and `null`; never a TypeError -/
theorem ex_ts_terminates (w : List (Sym × Unit)) (hw : ∀ x ∈ w, x.1 ≤ 3 ∧ x.1 ≠ 1)
    (m0 : M Unit) (hs : TsStart KU w m0) :
    ∃ fuel, fuel ≤ (w.length + 1) * (1 + w.length * 3) * 3 ∧
      tsParser exTsP KU fuel m0 ≠ .outOfFuel ∧ tsParser exTsP KU fuel m0 ≠ .crash ∧
      ((∃ v m, tsParser exTsP KU fuel m0 = .ret (.val v) m ∧ m.errs = m0.errs) ∨
       ∃ m c, tsParser exTsP KU fuel m0 = .ret .null m ∧ m.errs = m0.errs + 1 ∧ Final m0 c m ∧
          c.req + c.rest.length = w.length + 1) ∧
      ∀ fuel', fuel ≤ fuel' → tsParser exTsP KU fuel' m0 = tsParser exTsP KU fuel m0 := by
  obtain ⟨A, t, hB, hL, hT, hM, hn⟩ := ex_pipeline
  have := C06_end_to_end_terminates_ts Core.pairWinner C01_pairWinner_sel exG 5 noPrec A t
    (fun _ _ => ()) () KU (by decide) hB hL 3 (by rw [hT, hn]; exact ex_certTerm) w hw m0 hs
  rw [hT, hn] at this
  exact this

/-- **instance of `C06_end_to_end_decides_ts`**: for every string over `a` (2) and `b` (3) the
    translated `Parser` on `exT` decides membership in the language of `exG` within the same bound -/
theorem ex_ts_decides (w : List (Sym × Unit)) (hw : ∀ x ∈ w, x.1 = 2 ∨ x.1 = 3)
    (m0 : M Unit) (hs : TsStart KU w m0) :
    ∃ fuel, fuel ≤ (w.length + 1) * (1 + w.length * 3) * 3 ∧ ∀ fuel', fuel ≤ fuel' →
      ((∃ v m, tsParser exTsP KU fuel' m0 = .ret (.val v) m) ↔ GenL exG [4] (w.map Prod.fst)) ∧
      (GenL exG [4] (w.map Prod.fst) →
        ∃ v m, tsParser exTsP KU fuel' m0 = .ret (.val v) m ∧
        RmDer exG [4] m.reds (w.map Prod.fst) ∧ m.input = [] ∧ m.req = w.length + 1 ∧
        m.errs = m0.errs) ∧
      (¬ GenL exG [4] (w.map Prod.fst) →
        ∃ m c, tsParser exTsP KU fuel' m0 = .ret .null m ∧ m.errs = m0.errs + 1 ∧
        Final m0 c m ∧ c.req + c.rest.length = w.length + 1) := by
  obtain ⟨A, t, hB, hL, hT, hM, hn⟩ := ex_pipeline
  have := C06_end_to_end_decides_ts Core.pairWinner C01_pairWinner_sel exG 5 noPrec A t
    (fun _ _ => ()) () KU (by decide) hB hL (by omega) 4 rfl 3 (by rw [hT, hn]; exact ex_certTerm)
    w (ex_isT hw) m0 hs
  rw [hT, hn] at this
  exact this

/-- kind (0 value, 1 `null`, 2 TypeError, 3 out of fuel, 4 other), reductions, tokens requested,
    tokens left, `console.error` calls, pointer -/
def tsView : Res Unit → Nat × List Nat × Nat × Nat × Nat × Int
  | .ret (.val _) m => (0, m.reds, m.req, m.input.length, m.errs, m.sp)
  | .ret .null m => (1, m.reds, m.req, m.input.length, m.errs, m.sp)
  | .crash => (2, [], 0, 0, 0, 0)
  | .outOfFuel => (3, [], 0, 0, 0, 0)
  | _ => (4, [], 0, 0, 0, 0)

def tsStateOf (w : List (Sym × Unit)) : Res Unit → M Unit
  | .norm m => m
  | .brk m => m
  | .ret _ m => m
  | _ => exTsEmpty w

/-- `a a b`: a value, reductions 2, 1, 1 (most recent first), four tokens requested, nothing printed -/
theorem ex_ts_run : tsView (tsParser exTsP KU 20 (exTs0 [(2, ()), (2, ()), (3, ())]))
    = (0, [1, 1, 2], 4, 0, 0, 2) := by decide +kernel

/-- `a a`: one `console.error`, `null`, at the end marker -/
example : tsView (tsParser exTsP KU 20 (exTs0 [(2, ()), (2, ())])) = (1, [], 3, 0, 1, 3) := by
  decide +kernel

/-- `b b`: rejected at the second `b` -/
example : tsView (tsParser exTsP KU 20 (exTs0 [(3, ()), (3, ())])) = (1, [], 2, 0, 1, 2) := by
  decide +kernel

/-- an unknown input code (`translate` answers 0): syntax error, no TypeError -/
example : tsView (tsParser exTsP KU 20 (exTs0 [(2, ()), (0, ())])) = (1, [], 2, 0, 1, 2) := by
  decide +kernel

/-- C15 on `exT`: the accepted `a a b` again WITHOUT `initialize()`: the loop starts in the accept
    state with lookahead `a`: one `console.error`, `null`, nothing reduced … -/
theorem ex_ts_second : tsView (tsParser exTsP KU 20
    (recall (tsStateOf [] (tsParser exTsP KU 20 (exTs0 [(2, ()), (2, ()), (3, ())]))) [(2, ()), (2, ()), (3, ())]))
    = (1, [], 1, 2, 1, 2) := by decide +kernel

/-- … and WITH the translated `initialize()` in between it is accepted again -/
theorem ex_ts_reinit : tsView (tsParser exTsP KU 20
    (tsStateOf [] (invoke exTsP KU ext0 0 Gen.Ts.initialize []
      (recall (tsStateOf [] (tsParser exTsP KU 20 (exTs0 [(2, ()), (2, ()), (3, ())]))) [(2, ()), (2, ()), (3, ())]))))
    = (0, [1, 1, 2], 4, 0, 0, 2) := by decide +kernel

/-- without the module tail (`StackPointer = 0`) the first guard is taken: a silent `null` — the
    hypothesis `TsStart` of `C06_end_to_end_ts` is needed -/
example : tsView (tsParser exTsP KU 20 (exTsEmpty [(2, ()), (2, ()), (3, ())])) = (1, [], 1, 2, 0, 0) := by
  decide +kernel

end Y.Props

#print axioms Y.Props.exec_mono
#print axioms Y.Props.execs_mono
#print axioms Y.Props.tsParser_mono
#print axioms Y.Props.ts_action_dense
#print axioms Y.Props.tsStart_initialize
#print axioms Y.Props.tsStart_load
#print axioms Y.Props.parser_ts_list
#print axioms Y.Props.C01_end_to_end_ts
#print axioms Y.Props.C06_end_to_end_ts
#print axioms Y.Props.C02_end_to_end_ts
#print axioms Y.Props.C06_end_to_end_terminates_ts
#print axioms Y.Props.C06_end_to_end_decides_ts
#print axioms Y.Props.C15_ts_second_call
#print axioms Y.Props.C15_ts_reinit
#print axioms Y.Props.C15_ts_reinit_decides
#print axioms Y.Props.ex_ts_sound
#print axioms Y.Props.ex_ts_terminates
#print axioms Y.Props.ex_ts_decides
#print axioms Y.Props.ex_ts_run
#print axioms Y.Props.ex_ts_second
#print axioms Y.Props.ex_ts_reinit
