import Yv.Proofs.YLexTotal
import Yv.Proofs.YParseTotal
/-! # C13 — generation terminates on every input text (front end: lexer and parser models)

The functional models of the lexer (`YLex.lexAll`) and of the parser (`YParse.parse`) drive their
loops with fuel (`length + 2`, resp. `2 * toks.size + 10`) and simply stop when it runs out.  C13
for the models is the statement that this never happens: the fuel is not an artificial cut-off.

* lexer: `YLex.lexAll_total` (`Yv/Proofs/YLexTotal.lean`) — the flag returned by `lexAll` is `true`;
* parser: `YParse.parseI` (`Yv/Proofs/YParseTotal.lean`) is the instrumented twin of `YParse.parse`:
  the same code for every loop (`tokendefLoop`, `precLoop`, `typeLoop`, `declLoop`, `ruleLoop`,
  `rulesLoop`, and the non-recursive `parseTokendef`/`parsePrecList`/`parseTypeList`/`parseRule`
  around them), each additionally returning a flag that is `true` iff the run reached `fuel = 0` in
  that loop or in a loop it called.  `parse_eq_instrumented` : the twin computes exactly the model's
  result; `C13_parse_total` : with the model's own fuel no flag is ever raised.

The flags cover all six fuel-carrying loops of `YParse`; `C13_full` is the statement for the parser
model.  The argument: `P.bound p = (toks.size - idx + peek) + (0 if p is parked at the
end, else 1)` strictly decreases along every continuing iteration of every loop, and
`bound ≤ toks.size + 1 < 2 * toks.size + 10` at the start. -/
namespace YParse

/-- some loop of the instrumented parser run (with the model's fuel) ran out of fuel -/
def parseExhausted (src : String) : Bool := (parseI src).exhausted

/-- the instrumented run is the model's run -/
theorem parse_eq_instrumented (src : String) : (parseI src).result = YParse.parse src := by
  unfold parseI parse
  simp only [declLoopI_fst]
  split <;> simp only [*, rulesLoopI_fst, apply_ite PI.result]

/-- the full statement of C13 for the parser model -/
def C13_full : Prop := ∀ src : String, parseExhausted src = false

/-- C13, parser half: the fuel `2 * toks.size + 10` is never used up, in any loop -/
theorem C13_parse_total (src : String) : parseExhausted src = false := by
  unfold parseExhausted parseI
  simp only
  generalize (YLex.lexAll src).1 = toks
  generalize hp0 : ({ toks := toks, inputLen := src.length } : P) = p0
  have h0 : p0.next.bound ≤ toks.size + 1 := by
    have h1 := next_bound_le p0
    have h2 := bound_le_m p0
    have h3 : p0.m = toks.size := by subst hp0; simp [P.m]
    omega
  have hd := declLoopI_ok (2 * toks.size + 10) p0.next {} (by omega)
  split
  · exact hd.1
  · next p d heq =>
    split
    · exact hd.1
    · have h4 := hd.2 p d heq
      have h5 := next_bound_le p
      have h6 := ruleBound_le p.next
      simp only [hd.1, rulesLoopI_ok (2 * toks.size + 10) p.next [] [] (by omega), Bool.or_self]

theorem C13_full_holds : C13_full := C13_parse_total

/-- C13 for the front end: neither the lexer nor the parser model is cut short by its fuel -/
theorem C13_front_total (src : String) : (YLex.lexAll src).2 = true ∧ parseExhausted src = false :=
  ⟨YLex.lexAll_total src, C13_parse_total src⟩

/-! The flags are not vacuous: with too little fuel the twins do report exhaustion. -/
section sanity
private def twoIdents : P :=
  ({ toks := #[⟨.identifier, "a", 1⟩, ⟨.identifier, "b", 2⟩], inputLen := 3 } : P).next

example : (typeLoopI 1 twoIdents "" []).2 = true := by decide
example : (typeLoopI 2 twoIdents "" []).2 = true := by decide
example : (typeLoopI 3 twoIdents "" []).2 = false := by decide
example : (rulesLoopI 1 twoIdents [] []).2 = true := by decide
example : (rulesLoopI 3 twoIdents [] []).2 = false := by decide
end sanity

end YParse

#print axioms YParse.parse_eq_instrumented
#print axioms YParse.C13_parse_total
#print axioms YParse.C13_front_total
