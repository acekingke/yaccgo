import Yv.Proofs.DComplete
import Yv.Props.C01
/-! # C02 — every sentence is accepted (completeness)

For every grammar, automaton, dense table, candidate nullable/first sets and lookahead table — all
given **as data** — that pass the decidable certificates

* `gramWF`, `certA`, `certT` (as for C01),
* `setsClosed` (the candidate sets are closed under the rules),
* `laClosed` (item sets and lookahead table are closed under LR(1) closure and goto, `$` on the start item),
* `certC` (every lookahead of a complete item holds its reduction / accept; every terminal after a
  dot holds the shift to the automaton's successor),
* `laTerm` (every stored lookahead symbol is a terminal),

the concrete driver `Y.D.run` on the dense table accepts **every** token sequence whose symbols are
derived from the start symbol `S₀` (`rules[0] = start' → S₀`), whatever the token values, the
semantic actions, the end-marker value and the bottom-of-stack value are. -/
namespace Y.Props
open Y Y.D

theorem C02_complete {V : Type} (G : Grammar) (nS : Nat) (A : Auto) (T : Dense) (S : Sets) (la : LATab)
    (sem : Nat → List V → V) (eofVal bv : V)
    (hG : gramWF G nS = true) (hA : certA G A = true) (hT : certT G nS A T = true)
    (hS : setsClosed G S = true) (hL : laClosed G S (toLAData A la) = true)
    (hC : certC G A la T = true) (hLT : laTerm G A la = true)
    (S₀ : Sym) (h0 : G.rules[0]? = some ⟨0, [S₀]⟩)
    (w : List (Sym × V)) (hw : GenL G [S₀] (w.map Prod.fst)) :
    ∃ fuel v c', run (dparams G T A.n sem eofVal) fuel (init bv w) = .accept v c' :=
  complete_run sem eofVal bv (gramWF_ok hG) (certA_ok hA) (certT_ok hT) hS hL hC hLT w ⟨0, [S₀]⟩ h0 hw

/-- the same, with the start symbol left implicit: sentences are the terminal strings derived from
    the body of rule 0 -/
theorem C02_complete_rhs0 {V : Type} (G : Grammar) (nS : Nat) (A : Auto) (T : Dense) (S : Sets) (la : LATab)
    (sem : Nat → List V → V) (eofVal bv : V)
    (hG : gramWF G nS = true) (hA : certA G A = true) (hT : certT G nS A T = true)
    (hS : setsClosed G S = true) (hL : laClosed G S (toLAData A la) = true)
    (hC : certC G A la T = true) (hLT : laTerm G A la = true)
    (w : List (Sym × V)) (hw : GenL G (G.rhsOf 0) (w.map Prod.fst)) :
    ∃ fuel v c', run (dparams G T A.n sem eofVal) fuel (init bv w) = .accept v c' := by
  obtain ⟨rl0, h0, _, _⟩ := (gramWF_ok hG).r0
  rw [rhsOf_of_get h0] at hw
  exact complete_run sem eofVal bv (gramWF_ok hG) (certA_ok hA) (certT_ok hT) hS hL hC hLT w rl0 h0 hw

/-- C02 together with C01: the accepting run of a sentence performs a rightmost derivation of it,
    consumes every token and requests exactly `|w|+1` tokens -/
theorem C02_complete_sound {V : Type} (G : Grammar) (nS : Nat) (A : Auto) (T : Dense) (S : Sets) (la : LATab)
    (sem : Nat → List V → V) (eofVal bv : V)
    (hG : gramWF G nS = true) (hA : certA G A = true) (hT : certT G nS A T = true)
    (hS : setsClosed G S = true) (hL : laClosed G S (toLAData A la) = true)
    (hC : certC G A la T = true) (hLT : laTerm G A la = true)
    (S₀ : Sym) (h0 : G.rules[0]? = some ⟨0, [S₀]⟩)
    (w : List (Sym × V)) (hw : GenL G [S₀] (w.map Prod.fst))
    (hwT : ∀ t ∈ w, t.1 ≤ G.nT ∧ t.1 ≠ 1) :
    ∃ fuel v c', run (dparams G T A.n sem eofVal) fuel (init bv w) = .accept v c' ∧
      RmDer G [S₀] c'.reds (w.map Prod.fst) ∧ c'.rest = [] ∧ c'.req = w.length + 1 := by
  obtain ⟨fuel, v, c', hrun⟩ := C02_complete G nS A T S la sem eofVal bv hG hA hT hS hL hC hLT S₀ h0 w hw
  obtain ⟨rl0, hr0, _, hder, hrest, hreq⟩ := C01_sound G nS A T sem eofVal bv hG hA hT w hwT fuel v c' hrun
  rw [h0] at hr0; cases hr0
  exact ⟨fuel, v, c', hrun, hder, hrest, hreq⟩

/-! ## Non-vacuity: the example grammar `S' → S ; S → a S | b` of C01 with its 5-state automaton
    and table, candidate sets and LALR(1) lookaheads; all certificates evaluate to `true`, and the
    theorem applies to the sentence `a a b`. -/

def exS : Sets :=
  { nullable := fun _ => false,
    first := fun x => if x = 0 ∨ x = 4 then [2, 3] else if x ≤ 3 then [x] else [] }

def exLA : LATab :=
  { tab := [[(⟨0,0⟩, [1]), (⟨1,0⟩, [1]), (⟨2,0⟩, [1])],
            [(⟨0,1⟩, [1])],
            [(⟨1,0⟩, [1]), (⟨1,1⟩, [1]), (⟨2,0⟩, [1])],
            [(⟨2,1⟩, [1])],
            [(⟨1,2⟩, [1])]] }

theorem exS_closed : setsClosed exG exS = true := by decide +kernel
theorem exLA_closed : laClosed exG exS (toLAData exA exLA) = true := by decide +kernel
theorem exLA_certC : certC exG exA exLA exT = true := by decide +kernel
theorem exLA_term : laTerm exG exA exLA = true := by decide +kernel

example : gramWF exG 5 = true ∧ certA exG exA = true ∧ certT exG 5 exA exT = true ∧
    setsClosed exG exS = true ∧ laClosed exG exS (toLAData exA exLA) = true ∧
    certC exG exA exLA exT = true ∧ laTerm exG exA exLA = true :=
  ⟨exG_wf, exA_ok, exT_ok, exS_closed, exLA_closed, exLA_certC, exLA_term⟩

/-- `a a b` is a sentence of the example grammar -/
theorem ex_sentence : GenL exG [4] ([(2, ()), (2, ()), (3, ())].map Prod.fst) := by
  have hb : GenL exG [3] [3] := .tm 3 [] [] (by decide) .nil
  have hS1 : GenL exG [4] [3] := by
    simpa using GenL.nt (G := exG) 2 ⟨4, [3]⟩ [] [3] [] rfl hb .nil
  have hS2 : GenL exG [4] [2, 3] := by
    have hbody : GenL exG [2, 4] [2, 3] := .tm 2 [4] [3] (by decide) hS1
    simpa using GenL.nt (G := exG) 1 ⟨4, [2, 4]⟩ [] [2, 3] [] rfl hbody .nil
  have hbody : GenL exG [2, 4] [2, 2, 3] := .tm 2 [4] [2, 3] (by decide) hS2
  simpa using GenL.nt (G := exG) 1 ⟨4, [2, 4]⟩ [] [2, 2, 3] [] rfl hbody .nil

example : ∃ fuel v c', run (dparams (V := Unit) exG exT exA.n (fun _ _ => ()) ()) fuel
    (init () [(2, ()), (2, ()), (3, ())]) = .accept v c' :=
  C02_complete exG 5 exA exT exS exLA (fun _ _ => ()) () ()
    exG_wf exA_ok exT_ok exS_closed exLA_closed exLA_certC exLA_term 4 rfl _ ex_sentence

end Y.Props
