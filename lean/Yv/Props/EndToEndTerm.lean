import Yv.Props.EndToEnd
import Yv.Props.C06c
/-! # End to end, termination: the TEXT of the generated Go parser halts on the packed arrays

`EndToEnd.lean` says what the interpreted `Parser` text can NOT end in (`crash`, `return nil`) and
what a returned value means — for every bound `fuel` on the number of loop iterations; the
interpreter answers `Res.outOfFuel` when that bound is used up, and nothing there excludes that
answer.  `C06c.lean` proves that the list driver halts on every table passing the decidable
certificate `Y.Term.certTerm`.  Here the two are composed.

**How the fuels are related.**  `fuel` of `goParserGlobal … fuel` (`GoSem.invoke`) bounds the number
of iterations of the `for` loop of `Parser` (the bodies of `Push`/`Pop`/`Action` are loop-free); one
iteration is one `astep` (`step_global_eq`), one `astep` is one `step` of the list driver
(`astep_refines`).  So `parser_global_eq`/`C08_global` relate the interpreter and `run` at the SAME
fuel, `toOutcome … .outOfFuel = Res.outOfFuel`, and the fuel bound `termBound F |w|` of
`C06_terminates_bound` is, unchanged, a bound on the loop iterations of the generated text.
Halting and deciding are first stated for the list driver and then read through `GoEndsAs`
(`EndToEndTs.lean` does the same through `TsEndsAs`). -/
namespace Y.Props
open Y Y.D Y.GT Y.AD GoSem C08b Y.Term
open Core (Action)

theorem termBound_eq (F len : Nat) : termBound F len = (len + 1) * (1 + len * F) * F := rfl

/-- the array driver: once halted, more fuel changes neither the outcome nor the last loop head -/
theorem arun_alast_mono {V : Type} (P : Params V) : ∀ (fuel : Nat) (c : ACfg V),
    arun P fuel c ≠ .outOfFuel → ∀ fuel', fuel ≤ fuel' →
      arun P fuel' c = arun P fuel c ∧ alast P fuel' c = alast P fuel c
  | 0, _, h, _, _ => absurd rfl h
  | k + 1, c, h, k', hk => by
    obtain ⟨j, rfl⟩ : ∃ j, k' = j + 1 := ⟨k' - 1, by omega⟩
    simp only [arun, alast] at h ⊢
    cases hs : astep P c with
    | next c' =>
      simp only [hs] at h ⊢
      exact arun_alast_mono P k c' h j (by omega)
    | acc v c' => exact ⟨rfl, rfl⟩
    | err c' => exact ⟨rfl, rfl⟩
    | crash => exact ⟨rfl, rfl⟩
    | nil => exact ⟨rfl, rfl⟩

/-- … hence what `Parser` returns (`parser_global_eq`, `parser_object_eq`: `toOutcome` of the two) -/
theorem toOutcome_mono {V : Type} {eofVal : V} {env : List (Gen.Id × Val V)} (P : Params V) {fuel fuel' : Nat}
    (c : ACfg V) (h : toOutcome eofVal env (alast P fuel c) (arun P fuel c) ≠ .outOfFuel) (hf : fuel ≤ fuel') :
    toOutcome eofVal env (alast P fuel' c) (arun P fuel' c) = toOutcome eofVal env (alast P fuel c) (arun P fuel c) := by
  obtain ⟨h1, h2⟩ := arun_alast_mono P fuel c (fun e => h (by rw [e]; rfl)) fuel' hf
  rw [h1, h2]

/-- the translated `Parser` of the global template (any parameters, any start stack): an answer
    other than `outOfFuel` is the answer for every larger bound on the loop iterations -/
theorem goParserGlobal_mono {V : Type} (P : Params V) (zeroV : V) (fuel : Nat) (s : AStack V)
    (w : List (Sym × V)) (env : List (Gen.Id × Val V))
    (h : goParserGlobal P zeroV fuel s w env ≠ .outOfFuel) (fuel' : Nat) (hf : fuel ≤ fuel') :
    goParserGlobal P zeroV fuel' s w env = goParserGlobal P zeroV fuel s w env := by
  unfold goParserGlobal at h ⊢
  simp only [parser_global_eq] at h ⊢
  exact toOutcome_mono P _ h hf

theorem goParserObject_mono {V : Type} (P : Params V) (zeroV : V) (fuel : Nat) (s : AStack V)
    (w : List (Sym × V)) (env : List (Gen.Id × Val V))
    (h : goParserObject P zeroV fuel s w env ≠ .outOfFuel) (fuel' : Nat) (hf : fuel ≤ fuel') :
    goParserObject P zeroV fuel' s w env = goParserObject P zeroV fuel s w env := by
  unfold goParserObject at h ⊢
  simp only [parser_object_eq] at h ⊢
  exact toOutcome_mono P _ h hf

section transfer
variable {V : Type} {G : Grammar} {nS : Nat} {A : Auto} {T : Dense} {sem : Nat → List V → V}
  {eofVal bv : V} {w : List (Sym × V)} {env : List (Gen.Id × Val V)} (hC : Certified G nS A T)
include hC

/-- within `termBound F |w|` steps the list driver has accepted or reported the syntax error at
    the offending token -/
theorem run_halts {F : Nat} (hF : certTerm G T A.n F = true)
    (hw : ∀ x ∈ w, x.1 ≤ G.nT ∧ x.1 ≠ 1) :
    ∃ fuel, fuel ≤ termBound F w.length ∧
      ((∃ v c', run (dparams G T A.n sem eofVal) fuel (init bv w) = .accept v c') ∨
       ∃ c', run (dparams G T A.n sem eofVal) fuel (init bv w) = .syntaxError c' ∧
         c'.req + c'.rest.length = w.length + 1) := by
  obtain ⟨fuel, hle, hfuel⟩ := C06_terminates_bound G T A.n sem eofVal bv F hF w
  obtain ⟨hnc, herr⟩ := C06_safe G nS A T sem eofVal bv hC.gram hC.auto hC.table w hw fuel
  refine ⟨fuel, hle, ?_⟩
  cases hrun : run (dparams G T A.n sem eofVal) fuel (init bv w) with
  | accept v c' => exact .inl ⟨v, c', rfl⟩
  | syntaxError c' => exact .inr ⟨c', rfl, herr c' hrun⟩
  | crash => exact absurd hrun hnc
  | outOfFuel => exact absurd hrun hfuel

/-- … and if some run accepts exactly when `L` holds (`C02_pipeline`: when the input is a sentence),
    then from that bound on the run accepts if `L` and reports the syntax error if not: two halted
    runs are the same run (`C06_terminates_mono`) -/
theorem run_decides {F : Nat} (hF : certTerm G T A.n F = true)
    (hw : ∀ x ∈ w, x.1 ≤ G.nT ∧ x.1 ≠ 1) {L : Prop}
    (h02 : (∃ fuel v c', run (dparams G T A.n sem eofVal) fuel (init bv w) = .accept v c') ↔ L) :
    ∃ fuel, fuel ≤ termBound F w.length ∧ ∀ fuel', fuel ≤ fuel' →
      ((∃ v c', run (dparams G T A.n sem eofVal) fuel' (init bv w) = .accept v c') ↔ L) ∧
      (¬ L → ∃ c', run (dparams G T A.n sem eofVal) fuel' (init bv w) = .syntaxError c' ∧
        c'.req + c'.rest.length = w.length + 1) := by
  obtain ⟨fuel, hle, hd⟩ := run_halts hC (sem := sem) (eofVal := eofVal) (bv := bv) hF hw
  have hne : run (dparams G T A.n sem eofVal) fuel (init bv w) ≠ .outOfFuel := by
    rcases hd with ⟨v, c', h⟩ | ⟨c', h, -⟩ <;> rw [h] <;> nofun
  refine ⟨fuel, hle, fun fuel' hf => ?_⟩
  rw [C06_terminates_mono _ fuel _ hne fuel' hf]
  rcases hd with ⟨v, c', h⟩ | ⟨c', h, hc⟩ <;> rw [h]
  · have hL := h02.mp ⟨fuel, v, c', h⟩
    exact ⟨⟨fun _ => hL, fun _ => ⟨v, c', rfl⟩⟩, fun hn => absurd hL hn⟩
  · refine ⟨⟨nofun, fun hL => ?_⟩, fun _ => ⟨c', rfl, hc⟩⟩
    obtain ⟨f2, v, c2, h2⟩ := h02.mpr hL
    have e1 := C06_terminates_mono _ fuel _ hne (max fuel f2) (Nat.le_max_left ..)
    have e2 := C06_terminates_mono _ f2 _ (by rw [h2]; nofun) (max fuel f2) (Nat.le_max_right ..)
    rw [e1, h, h2] at e2
    cases e2

/-- for a family `r fuel` of results that is stable once halted: the halting bound, what the
    result is not, what it is, and stability -/
theorem terminates_of_outcome {F : Nat} (hF : certTerm G T A.n F = true)
    (hw : ∀ x ∈ w, x.1 ≤ G.nT ∧ x.1 ≠ 1) {r : Nat → Res V}
    (hr : ∀ fuel, GoEndsAs eofVal env (r fuel) (run (dparams G T A.n sem eofVal) fuel (init bv w)))
    (hmono : ∀ fuel, r fuel ≠ .outOfFuel → ∀ fuel', fuel ≤ fuel' → r fuel' = r fuel) :
    ∃ fuel, fuel ≤ termBound F w.length ∧
      r fuel ≠ .outOfFuel ∧ r fuel ≠ .crash ∧ (∀ m, r fuel ≠ .ret .nil m) ∧
      ((∃ v m, r fuel = .ret (.val v) m) ∨
       ∃ c, r fuel = .err (withEnv env (toM eofVal c)) ∧ c.req + c.rest.length = w.length + 1) ∧
      ∀ fuel', fuel ≤ fuel' → r fuel' = r fuel := by
  obtain ⟨fuel, hle, hd⟩ := run_halts hC (sem := sem) (eofVal := eofVal) (bv := bv) hF hw
  refine ⟨fuel, hle, ?_⟩
  have h := hr fuel
  have hm := hmono fuel
  rcases hd with ⟨v, c', hO⟩ | ⟨c', hO, hc⟩ <;> rw [hO] at h
  · obtain ⟨c, -, e⟩ := h.of_accept
    rw [e] at hm ⊢
    exact ⟨nofun, nofun, nofun, .inl ⟨v, _, rfl⟩, hm nofun⟩
  · obtain ⟨c, rfl, e⟩ := h.of_syntaxError
    rw [e] at hm ⊢
    exact ⟨nofun, nofun, nofun, .inr ⟨c, rfl, hc⟩, hm nofun⟩

/-- … and if some run of the list driver accepts exactly the sentences: from the bound on, the
    result is a value exactly for the sentences (no stability of `r` is needed: that of the list
    driver is in `run_decides`) -/
theorem decides_of_outcome {S₀ : Sym} (h0 : G.rules[0]? = some ⟨0, [S₀]⟩) {F : Nat}
    (hF : certTerm G T A.n F = true) (hw : ∀ x ∈ w, x.1 ≤ G.nT ∧ x.1 ≠ 1)
    (h02 : (∃ fuel v c', run (dparams G T A.n sem eofVal) fuel (init bv w) = .accept v c') ↔
      GenL G [S₀] (w.map Prod.fst)) {r : Nat → Res V}
    (hr : ∀ fuel, GoEndsAs eofVal env (r fuel) (run (dparams G T A.n sem eofVal) fuel (init bv w))) :
    ∃ fuel, fuel ≤ termBound F w.length ∧ ∀ fuel', fuel ≤ fuel' →
      ((∃ v m, r fuel' = .ret (.val v) m) ↔ GenL G [S₀] (w.map Prod.fst)) ∧
      (GenL G [S₀] (w.map Prod.fst) → ∃ v m, r fuel' = .ret (.val v) m ∧
        RmDer G [S₀] m.reds (w.map Prod.fst) ∧ m.input = [] ∧ m.req = w.length + 1) ∧
      (¬ GenL G [S₀] (w.map Prod.fst) → ∃ c, r fuel' = .err (withEnv env (toM eofVal c)) ∧
        c.req + c.rest.length = w.length + 1) := by
  obtain ⟨fuel, hle, hd⟩ := run_decides hC hF hw h02
  refine ⟨fuel, hle, fun fuel' hf => ?_⟩
  obtain ⟨hiff, hno⟩ := hd fuel' hf
  have hv := (hr fuel').val_iff.trans hiff
  refine ⟨hv, fun hgen => ?_, fun hn => ?_⟩
  · obtain ⟨v, m, hrun⟩ := hv.mpr hgen
    obtain ⟨rl0, hr0, -, hder⟩ := C01_of_outcome hC hw (hr fuel') hrun
    rw [h0] at hr0
    cases hr0
    exact ⟨v, m, hrun, hder⟩
  · obtain ⟨c', hO, hc⟩ := hno hn
    obtain ⟨c, rfl, e⟩ := (hO ▸ hr fuel').of_syntaxError
    exact ⟨c, e, hc⟩

end transfer

section pipeline
variable {V : Type} (res : Action → Action → Action) (hR : ResSel res)
  (G : Grammar) (nS : Nat) (P : PrecData) (A : Auto) (t : LATab)
  (sem : Nat → List V → V) (eofVal bv zeroV : V)
  (hG : gramWF G nS = true) (hB : buildL G = some A) (hLa : laL G nS A = some t)
  (hW : SplitA.DenseWF (genTableL res G nS P A t) G.nT nS (errCode A.n) = true)
include hR hG hB hLa hW

/-- **C06, end to end, termination for the generated text, `Parser` AND `Action` (global
    template).**  For every well-formed grammar for which the verified generators return, whose
    table meets `DenseWF` and passes the termination certificate with `F` moves: for every valid
    input `w` there is a bound `fuel ≤ termBound F |w| = (|w|+1)·(1+|w|·F)·F` on the loop iterations
    with which the translated `Parser`, run on the packed arrays, is NOT out of fuel; it did not
    panic at run time and did not `return nil`; it ended by `return &v` or by
    `panic("Grammar error …")`, the latter exactly at the offending token; and every larger bound
    gives the same result. -/
theorem C06_end_to_end_terminates_global_go (F : Nat)
    (hF : certTerm G (genTableL res G nS P A t) A.n F = true)
    (w : List (Sym × V)) (hw : ∀ x ∈ w, x.1 ≤ G.nT ∧ x.1 ≠ 1)
    (env : List (Gen.Id × Val V)) :
    ∃ fuel, fuel ≤ termBound F w.length ∧
      goParserGlobal (pparamsGo G (genTableL res G nS P A t) A.n sem eofVal) zeroV fuel (initGlobal bv) w env
        ≠ .outOfFuel ∧
      goParserGlobal (pparamsGo G (genTableL res G nS P A t) A.n sem eofVal) zeroV fuel (initGlobal bv) w env
        ≠ .crash ∧
      (∀ m, goParserGlobal (pparamsGo G (genTableL res G nS P A t) A.n sem eofVal) zeroV fuel (initGlobal bv) w env
        ≠ .ret .nil m) ∧
      ((∃ v m, goParserGlobal (pparamsGo G (genTableL res G nS P A t) A.n sem eofVal) zeroV fuel (initGlobal bv) w env
          = .ret (.val v) m) ∨
       ∃ c, goParserGlobal (pparamsGo G (genTableL res G nS P A t) A.n sem eofVal) zeroV fuel (initGlobal bv) w env
          = .err (withEnv env (toM eofVal c)) ∧ c.req + c.rest.length = w.length + 1) ∧
      ∀ fuel', fuel ≤ fuel' →
        goParserGlobal (pparamsGo G (genTableL res G nS P A t) A.n sem eofVal) zeroV fuel' (initGlobal bv) w env
          = goParserGlobal (pparamsGo G (genTableL res G nS P A t) A.n sem eofVal) zeroV fuel (initGlobal bv) w env :=
  terminates_of_outcome (pipeline_certified hR hG hB hLa) hF hw
    (fun fuel => (parser_go (pipeline_certified hR hG hB hLa) hW hw fuel env).1)
    (fun fuel h fuel' hf => goParserGlobal_mono _ zeroV fuel _ w env h fuel' hf)

/-- **termination for the generated text, `Parser` AND `Action` (object template, new context)** -/
theorem C06_end_to_end_terminates_object_go (F : Nat)
    (hF : certTerm G (genTableL res G nS P A t) A.n F = true)
    (w : List (Sym × V)) (hw : ∀ x ∈ w, x.1 ≤ G.nT ∧ x.1 ≠ 1)
    (env : List (Gen.Id × Val V)) :
    ∃ fuel, fuel ≤ termBound F w.length ∧
      goParserObject (pparamsGoObj G (genTableL res G nS P A t) A.n sem eofVal) zeroV fuel (initCtx emptyStack bv) w env
        ≠ .outOfFuel ∧
      goParserObject (pparamsGoObj G (genTableL res G nS P A t) A.n sem eofVal) zeroV fuel (initCtx emptyStack bv) w env
        ≠ .crash ∧
      (∀ m, goParserObject (pparamsGoObj G (genTableL res G nS P A t) A.n sem eofVal) zeroV fuel (initCtx emptyStack bv) w env
        ≠ .ret .nil m) ∧
      ((∃ v m, goParserObject (pparamsGoObj G (genTableL res G nS P A t) A.n sem eofVal) zeroV fuel (initCtx emptyStack bv) w env
          = .ret (.val v) m) ∨
       ∃ c, goParserObject (pparamsGoObj G (genTableL res G nS P A t) A.n sem eofVal) zeroV fuel (initCtx emptyStack bv) w env
          = .err (withEnv env (toM eofVal c)) ∧ c.req + c.rest.length = w.length + 1) ∧
      ∀ fuel', fuel ≤ fuel' →
        goParserObject (pparamsGoObj G (genTableL res G nS P A t) A.n sem eofVal) zeroV fuel' (initCtx emptyStack bv) w env
          = goParserObject (pparamsGoObj G (genTableL res G nS P A t) A.n sem eofVal) zeroV fuel (initCtx emptyStack bv) w env :=
  terminates_of_outcome (pipeline_certified hR hG hB hLa) hF hw
    (fun fuel => (parser_go (pipeline_certified hR hG hB hLa) hW hw fuel env).2)
    (fun fuel h fuel' hf => goParserObject_mono _ zeroV fuel _ w env h fuel' hf)

/-- **The generated text, `Parser` AND `Action`, is a decision procedure (global template).**  For
    every LALR(1) grammar (no table cell with two candidates) whose table meets `DenseWF` and passes
    the termination certificate, and every string `w` of terminals other than `$`: there is a bound
    `fuel ≤ termBound F |w|` such that for EVERY bound `fuel' ≥ fuel` on the loop iterations the
    translated `Parser` on the packed arrays returns a value iff `w` is a sentence — then after
    reductions that are a rightmost derivation of `w`, with all input consumed — and otherwise
    reports the grammar error with `req + |rest| = |w| + 1` (nothing requested from the lexer after
    the offending token). -/
theorem C06_end_to_end_decides_global_go
    (hM : maxCandsL G nS P A t ≤ 1) (S₀ : Sym) (h0 : G.rules[0]? = some ⟨0, [S₀]⟩) (F : Nat)
    (hF : certTerm G (genTableL res G nS P A t) A.n F = true)
    (w : List (Sym × V)) (hwT : ∀ x ∈ w, G.isT x.1 = true ∧ x.1 ≠ 1)
    (env : List (Gen.Id × Val V)) :
    ∃ fuel, fuel ≤ termBound F w.length ∧ ∀ fuel', fuel ≤ fuel' →
      ((∃ v m, goParserGlobal (pparamsGo G (genTableL res G nS P A t) A.n sem eofVal) zeroV fuel'
          (initGlobal bv) w env = .ret (.val v) m) ↔ GenL G [S₀] (w.map Prod.fst)) ∧
      (GenL G [S₀] (w.map Prod.fst) →
        ∃ v m, goParserGlobal (pparamsGo G (genTableL res G nS P A t) A.n sem eofVal) zeroV fuel'
          (initGlobal bv) w env = .ret (.val v) m ∧
        RmDer G [S₀] m.reds (w.map Prod.fst) ∧ m.input = [] ∧ m.req = w.length + 1) ∧
      (¬ GenL G [S₀] (w.map Prod.fst) →
        ∃ c, goParserGlobal (pparamsGo G (genTableL res G nS P A t) A.n sem eofVal) zeroV fuel'
          (initGlobal bv) w env = .err (withEnv env (toM eofVal c)) ∧
        c.req + c.rest.length = w.length + 1) :=
  decides_of_outcome (pipeline_certified hR hG hB hLa) h0 hF (isT_valid hwT)
    (C02_pipeline res hR G nS P A t sem eofVal bv hG hB hLa hM S₀ h0 w hwT) fun fuel =>
    (parser_go (pipeline_certified hR hG hB hLa) hW (isT_valid hwT) fuel env).1

/-- **decision procedure, `Parser` AND `Action` text (object template, new context)** -/
theorem C06_end_to_end_decides_object_go
    (hM : maxCandsL G nS P A t ≤ 1) (S₀ : Sym) (h0 : G.rules[0]? = some ⟨0, [S₀]⟩) (F : Nat)
    (hF : certTerm G (genTableL res G nS P A t) A.n F = true)
    (w : List (Sym × V)) (hwT : ∀ x ∈ w, G.isT x.1 = true ∧ x.1 ≠ 1)
    (env : List (Gen.Id × Val V)) :
    ∃ fuel, fuel ≤ termBound F w.length ∧ ∀ fuel', fuel ≤ fuel' →
      ((∃ v m, goParserObject (pparamsGoObj G (genTableL res G nS P A t) A.n sem eofVal) zeroV fuel'
          (initCtx emptyStack bv) w env = .ret (.val v) m) ↔ GenL G [S₀] (w.map Prod.fst)) ∧
      (GenL G [S₀] (w.map Prod.fst) →
        ∃ v m, goParserObject (pparamsGoObj G (genTableL res G nS P A t) A.n sem eofVal) zeroV fuel'
          (initCtx emptyStack bv) w env = .ret (.val v) m ∧
        RmDer G [S₀] m.reds (w.map Prod.fst) ∧ m.input = [] ∧ m.req = w.length + 1) ∧
      (¬ GenL G [S₀] (w.map Prod.fst) →
        ∃ c, goParserObject (pparamsGoObj G (genTableL res G nS P A t) A.n sem eofVal) zeroV fuel'
          (initCtx emptyStack bv) w env = .err (withEnv env (toM eofVal c)) ∧
        c.req + c.rest.length = w.length + 1) :=
  decides_of_outcome (pipeline_certified hR hG hB hLa) h0 hF (isT_valid hwT)
    (C02_pipeline res hR G nS P A t sem eofVal bv hG hB hLa hM S₀ h0 w hwT) fun fuel =>
    (parser_go (pipeline_certified hR hG hB hLa) hW (isT_valid hwT) fuel env).2

end pipeline

/-! ## Non-vacuity: `S' → S ; S → a S | b` (`exG`, table `exT`, 5 states, `F = 3`) -/

theorem ex_certTerm : certTerm exG exT 5 3 = true := exT_term

/-- **instance of `C06_end_to_end_terminates_global_go`**: on every input over the codes
    `0, 2, 3` (unknown, `a`, `b`) the generated text (`Parser` and `Action` of the global
    template) on the packed arrays of `exT` halts within `(|w|+1)·(1+3|w|)·3` loop iterations, by
    `return &v` or by the grammar-error panic -/
theorem ex_terminates (w : List (Sym × Unit)) (hw : ∀ x ∈ w, x.1 ≤ 3 ∧ x.1 ≠ 1)
    (env : List (Gen.Id × Val Unit)) :
    ∃ fuel, fuel ≤ (w.length + 1) * (1 + w.length * 3) * 3 ∧
      goParserGlobal (pparamsGo exG exT 5 (fun _ _ => ()) ()) () fuel (initGlobal ()) w env ≠ .outOfFuel ∧
      goParserGlobal (pparamsGo exG exT 5 (fun _ _ => ()) ()) () fuel (initGlobal ()) w env ≠ .crash ∧
      (∀ m, goParserGlobal (pparamsGo exG exT 5 (fun _ _ => ()) ()) () fuel (initGlobal ()) w env
        ≠ .ret .nil m) ∧
      ((∃ v m, goParserGlobal (pparamsGo exG exT 5 (fun _ _ => ()) ()) () fuel (initGlobal ()) w env
          = .ret (.val v) m) ∨
       ∃ c, goParserGlobal (pparamsGo exG exT 5 (fun _ _ => ()) ()) () fuel (initGlobal ()) w env
          = .err (withEnv env (toM () c)) ∧ c.req + c.rest.length = w.length + 1) ∧
      ∀ fuel', fuel ≤ fuel' →
        goParserGlobal (pparamsGo exG exT 5 (fun _ _ => ()) ()) () fuel' (initGlobal ()) w env
          = goParserGlobal (pparamsGo exG exT 5 (fun _ _ => ()) ()) () fuel (initGlobal ()) w env := by
  obtain ⟨A, t, hB, hL, hT, hM, hn⟩ := ex_pipeline
  have := C06_end_to_end_terminates_global_go Core.pairWinner C01_pairWinner_sel exG 5 noPrec A t
    (fun _ _ => ()) () () () (by decide) hB hL (by rw [hT, hn]; exact ex_denseWF) 3 (by rw [hT, hn]; exact ex_certTerm) w hw env
  rw [hT, hn] at this
  exact this

/-- **instance of `C06_end_to_end_decides_global_go`**: for every string over `a` (2) and `b` (3)
    the generated text decides membership in the language of `exG` within the same bound -/
theorem ex_decides (w : List (Sym × Unit)) (hw : ∀ x ∈ w, x.1 = 2 ∨ x.1 = 3)
    (env : List (Gen.Id × Val Unit)) :
    ∃ fuel, fuel ≤ (w.length + 1) * (1 + w.length * 3) * 3 ∧ ∀ fuel', fuel ≤ fuel' →
      ((∃ v m, goParserGlobal (pparamsGo exG exT 5 (fun _ _ => ()) ()) () fuel'
          (initGlobal ()) w env = .ret (.val v) m) ↔ GenL exG [4] (w.map Prod.fst)) ∧
      (GenL exG [4] (w.map Prod.fst) →
        ∃ v m, goParserGlobal (pparamsGo exG exT 5 (fun _ _ => ()) ()) () fuel'
          (initGlobal ()) w env = .ret (.val v) m ∧
        RmDer exG [4] m.reds (w.map Prod.fst) ∧ m.input = [] ∧ m.req = w.length + 1) ∧
      (¬ GenL exG [4] (w.map Prod.fst) →
        ∃ c, goParserGlobal (pparamsGo exG exT 5 (fun _ _ => ()) ()) () fuel'
          (initGlobal ()) w env = .err (withEnv env (toM () c)) ∧
        c.req + c.rest.length = w.length + 1) := by
  obtain ⟨A, t, hB, hL, hT, hM, hn⟩ := ex_pipeline
  have := C06_end_to_end_decides_global_go Core.pairWinner C01_pairWinner_sel exG 5 noPrec A t
    (fun _ _ => ()) () () () (by decide) hB hL (by rw [hT, hn]; exact ex_denseWF) (by omega) 4 rfl 3
    (by rw [hT, hn]; exact ex_certTerm) w (ex_isT hw) env
  rw [hT, hn] at this
  exact this

/-- the two outcomes occur: `a a b` is a sentence, `a a` is not, so by `ex_decides` the text returns
    a value on the first and reports the grammar error on the second, for every large enough bound;
    here for the bound 20 (`ex_run_accepts`, `ex_run_rejects`) -/
example : rview (goParserGlobal (pparamsGo exG exT 5 (fun _ _ => ()) ()) () 20
    (initGlobal ()) [(2, ()), (2, ()), (3, ())] []) = (0, [1, 1, 2], 4, 0) ∧
    rview (goParserGlobal (pparamsGo exG exT 5 (fun _ _ => ()) ()) () 20
    (initGlobal ()) [(2, ()), (2, ())] []) = (2, [], 3, 0) :=
  ⟨ex_run_accepts, ex_run_rejects⟩

end Y.Props

#print axioms Y.Props.arun_alast_mono
#print axioms Y.Props.goParserGlobal_mono
#print axioms Y.Props.goParserObject_mono
#print axioms Y.Props.C06_end_to_end_terminates_global_go
#print axioms Y.Props.C06_end_to_end_terminates_object_go
#print axioms Y.Props.C06_end_to_end_decides_global_go
#print axioms Y.Props.C06_end_to_end_decides_object_go
#print axioms Y.Props.ex_certTerm
#print axioms Y.Props.ex_terminates
#print axioms Y.Props.ex_decides
