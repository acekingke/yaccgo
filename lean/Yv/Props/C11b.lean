import Yv.Proofs.EmitFacts
/-! # C11b / C01 / C05 / C06 — the emitted text determines the data ("read-back")

`Yv/Model/Emit.lean` models the code that PRINTS the token codes and the parse tables into the generated
Go / TypeScript file (compared byte for byte with the implementation on every run).  Here every printed
part is parsed back by an explicit, total reader of `Yv/Model/EmitRead.lean`, and the reader is proved to
return exactly the data the emitter was given, for ALL inputs: the decimal numbers and array bodies; the
five packed arrays, located by their names; the plain table, with the row numbers in the `/* i */` comments
checked to be 0, 1, 2, …; the `switch` of `translate`; the constant block with the two action codes.
A printer that can be read back is injective (stated for numbers, array bodies and rows). -/
namespace Y.Props
open Emit

theorem injective_of_readback {α : Type} {print : α → String} {read : String → Option α}
    (h : ∀ x, read (print x) = some x) : Function.Injective print := by
  intro x y e
  have hx := h x
  rw [e, h y] at hx
  exact (Option.some.inj hx).symm

theorem emit_dec_readback (i : Int) : Emit.readInt (Emit.dec i) = some i := by
  have h := readIntL_dec i [] trivial
  rw [List.append_nil] at h
  simp [readInt, toList_dec, h]

theorem emit_dec_injective : Function.Injective Emit.dec := injective_of_readback emit_dec_readback

theorem emit_arr_readback (xs : List Int) : Emit.readArr (Emit.arr xs) = some xs := by
  have h := readArrL_arr xs [] trivial
  rw [List.append_nil] at h
  simp [readArr, toList_arr, h]

theorem emit_arr_injective : Function.Injective Emit.arr := injective_of_readback emit_arr_readback

/-- the packed part as a list of named blocks -/
theorem toList_packedGo (d : Emit.Data) (h : d.need = true) :
    (Emit.packedGo d true).toList =
      blocksL [("StatePackAction", [' '], d.act), ("StatePackOffset", [], d.off),
        ("StackPackCheck", [], d.check), ("StackPackActDef", [], d.actdef),
        ("StackPackGotoDef", [], d.gotodef)] ++ ['\n'] := by
  -- each literal is `String.ofList [c, …]` by unification: `toList` of it is not evaluated
  have e1 : "\nvar StatePackAction = []int {\n\t".toList =
      '\n' :: (kwVar ++ ("StatePackAction".toList ++ (kwIntArr ++ ['\n', '\t']))) := String.toList_ofList
  have e2 : " \n}\nvar StatePackOffset = []int {\n\t".toList =
      ' ' :: '\n' :: '}' :: '\n' :: (kwVar ++ ("StatePackOffset".toList ++ (kwIntArr ++ ['\n', '\t']))) :=
    String.toList_ofList
  have e3 : "\n}\nvar StackPackCheck = []int {\n\t".toList =
      '\n' :: '}' :: '\n' :: (kwVar ++ ("StackPackCheck".toList ++ (kwIntArr ++ ['\n', '\t']))) :=
    String.toList_ofList
  have e4 : "\n}\nvar StackPackActDef = []int {\n\t".toList =
      '\n' :: '}' :: '\n' :: (kwVar ++ ("StackPackActDef".toList ++ (kwIntArr ++ ['\n', '\t']))) :=
    String.toList_ofList
  have e5 : "\n}\nvar StackPackGotoDef = []int {\n\t".toList =
      '\n' :: '}' :: '\n' :: (kwVar ++ ("StackPackGotoDef".toList ++ (kwIntArr ++ ['\n', '\t']))) :=
    String.toList_ofList
  have e6 : "\n}\n".toList = ['\n', '}', '\n'] := String.toList_ofList
  simp only [packedGo, h, Bool.and_self, if_true, String.toList_append, toList_arr, e1, e2, e3, e4, e5, e6,
    blocksL, blockL, List.map_cons, List.map_nil, List.flatten_cons, List.flatten_nil, List.append_assoc,
    List.cons_append, List.nil_append, List.append_nil]

theorem C05_emit_packed_readback (d : Emit.Data) (h : d.need = true) :
    Emit.readPacked (Emit.packedGo d true) = some (d.act, d.off, d.check, d.actdef, d.gotodef) := by
  unfold readPacked readDecls
  rw [toList_packedGo d h, readDeclsF_blocks _ ['\n']
    (by simp only [List.forall_mem_cons]
        exact ⟨.ofList _ (by decide), .ofList _ (by decide), .ofList _ (by decide), .ofList _ (by decide),
          .ofList _ (by decide), nofun⟩)
    (by simp [isWs]) (by decide) _ (Nat.lt_succ_self _)]
  rfl

theorem emit_rows_readback (op cl : Char) (hcl : startsInt cl = false) (rows : List (List Int)) :
    Emit.readRows op cl (Emit.rowsTxt (String.ofList [op]) (String.ofList [cl]) rows) = some rows := by
  have h := readRowsL_rows op cl hcl rows [] rfl
  rw [List.append_nil] at h
  rw [readRows, toList_rowsTxt, h]
  rfl

theorem C01_emit_rows_readback_go (rows : List (List Int)) :
    Emit.readRows '{' '}' (Emit.rowsTxt "{" "}" rows) = some rows :=
  emit_rows_readback '{' '}' (by decide) rows

theorem C01_emit_rows_readback_ts (rows : List (List Int)) :
    Emit.readRows '[' ']' (Emit.rowsTxt "[" "]" rows) = some rows :=
  emit_rows_readback '[' ']' (by decide) rows

theorem C01_emit_rows_injective : Function.Injective (Emit.rowsTxt "{" "}") :=
  injective_of_readback C01_emit_rows_readback_go

/-- `hasCmtEnd` decides "the text contains `*/`" -/
theorem hasCmtEnd_iff (l : List Char) : Emit.hasCmtEnd l = true ↔ ['*', '/'] <:+: l := by
  fun_induction hasCmtEnd l with
  | case1 => simp
  | case2 => simp [List.infix_cons_iff, List.cons_prefix_cons]
  | case3 s' => simp [List.infix_cons_iff, List.cons_prefix_cons]
  | case4 c' s' hc' ih =>
    rw [ih, List.infix_cons_iff (l₂ := c' :: s')]
    simp [List.cons_prefix_cons, Ne.symm hc']
  | case5 c s hc ih =>
    rw [ih, List.infix_cons_iff (l₂ := s)]
    simp [List.cons_prefix_cons, Ne.symm hc]

/-- What `readDenseGo` and `readDenseTs` share: the comment with the symbol names is skipped up to its `*/`,
    then come the newline and the rows. -/
theorem readDense_body (op cl : Char) (hcl : startsInt cl = false) (d : Emit.Data)
    (hn : ∀ s ∈ d.syms, ¬ ['*', '/'] <:+: s.name.toList) (rest : List Char)
    (hrest : strip kwRowOpen rest = none) {β : Type} (k : List (List Int) × List Char → Option β) :
    ((strip ['/', '*'] (headerL (d.syms.map (·.name)) ++ (rowsL [op] [cl] 0 d.rows ++ rest))).bind fun r0 =>
      (skipCmt r0).bind fun r1 => (strip ['\n'] r1).bind fun r2 => (readRowsL op cl r2).bind k) =
      k (d.rows, rest) := by
  obtain ⟨r0, h1, h2⟩ := skipCmt_header (d.syms.map (·.name)) (rowsL [op] [cl] 0 d.rows ++ rest) (by
    intro n hm
    obtain ⟨s, hs, rfl⟩ := List.mem_map.1 hm
    simpa [← hasCmtEnd_iff] using hn s hs)
  simp only [h1, h2, Option.bind_some, strip_cons_self, readRowsL_rows op cl hcl d.rows rest hrest]

/-- the plain Go table read back: the comment with the symbol names is skipped (up to its `*/`), every row
    carries its own number, and the rows are `d.rows` -/
theorem C01_emit_dense_readback_go (d : Emit.Data) (pack : Bool) (h : (d.need && pack) = false)
    (hn : ∀ s ∈ d.syms, ¬ ['*', '/'] <:+: s.name.toList) :
    Emit.readDenseGo (Emit.denseGo d pack) = some d.rows := by
  rw [readDenseGo, denseGo, h, if_neg Bool.false_ne_true, String.toList_append, toList_header,
    toList_rowsTxt '{' '}', ← List.append_nil (rowsL _ _ _ _), readDense_body _ _ (by decide) d hn [] rfl]
  rfl

theorem C01_emit_dense_readback_ts (d : Emit.Data)
    (hn : ∀ s ∈ d.syms, ¬ ['*', '/'] <:+: s.name.toList) :
    Emit.readDenseTs (Emit.denseTs d) = some d.rows := by
  unfold readDenseTs denseTs
  rw [String.toList_append, String.toList_append, String.toList_append, toList_header,
    toList_rowsTxt '[' ']', List.append_assoc, List.append_assoc]
  show (strip kwTsDenseHead (kwTsDenseHead ++ (_ ++ (_ ++ kwTsDenseTail)))).bind _ = _
  rw [strip_append, Option.bind_some, readDense_body _ _ (by decide) d hn kwTsDenseTail (by decide)]
  simp

/-- the terminals of the symbol table as (external code, internal id) -/
def termPairs (d : Emit.Data) : List (Int × Int) :=
  (d.syms.filter (!·.isNT)).map fun s => (s.value, (s.id : Int))

theorem toList_cases (term : String) (ts : List Emit.ESym) :
    (cat (ts.map fun s => "\tcase " ++ dec s.value ++ ":\n \tconv = " ++ dec s.id ++ term)).toList =
      casesL term.toList (ts.map fun s => (s.value, (s.id : Int))) := by
  simp only [toList_cat, casesL, caseL, List.map_map, Function.comp_def, String.toList_append, toList_dec,
    List.append_assoc]
  rfl

theorem toList_translateGo (d : Emit.Data) :
    (Emit.translateGo d).toList = casesL kwEndGo (termPairs d) :=
  toList_cases "\n" _

theorem toList_translateTs (d : Emit.Data) :
    (Emit.translateTs d).toList = kwTsTransHead ++ (casesL kwEndTs (termPairs d) ++ kwTsTransTail) := by
  unfold translateTs
  rw [String.toList_append, String.toList_append, toList_cases ";\nbreak;\n", List.append_assoc]
  rfl

theorem C11_emit_translate_readback_go (d : Emit.Data) :
    Emit.readTranslateGo (Emit.translateGo d) =
      some ((d.syms.filter (!·.isNT)).map fun s => (s.value, (s.id : Int))) := by
  have h := readCasesF_cases kwEndGo (noHead_kw String.toList_ofList (by decide)) (termPairs d) [] rfl
  rw [List.append_nil] at h
  rw [readTranslateGo, toList_translateGo, h _ (Nat.lt_succ_self _)]
  rfl

theorem C11_emit_translate_readback_ts (d : Emit.Data) :
    Emit.readTranslateTs (Emit.translateTs d) =
      some ((d.syms.filter (!·.isNT)).map fun s => (s.value, (s.id : Int))) := by
  rw [readTranslateTs, toList_translateTs, strip_append, Option.bind_some,
    readCasesF_cases kwEndTs (noHead_kw String.toList_ofList (by decide)) (termPairs d) kwTsTransTail
      (by decide) _ (Nat.lt_succ_self _)]
  simp [termPairs]

/-- the identifiers that get a `const` line: the terminals without the literals' temporary names -/
def constIds (d : Emit.Data) : List Emit.EId := d.ids.filter fun i => i.isTerm && !Emit.isTemp i.name

/-- what the constant block says: the token constants, then the two action codes -/
def constPairs (d : Emit.Data) : List (String × Int) :=
  ((d.ids.filter fun i => i.isTerm && !Emit.isTemp i.name).map fun i => (i.name, i.value)) ++
    [("ERROR_ACTION", d.errC), ("ACCEPT_ACTION", d.accC)]

/-- the lines of the constant block; `pad` is the blank TypeScript leaves after the first code -/
def constTriples (d : Emit.Data) (pad : List Char) : List (String × Int × List Char) :=
  ((constIds d).map fun i => (i.name, i.value, [])) ++
    [("ERROR_ACTION", d.errC, pad), ("ACCEPT_ACTION", d.accC, [])]

theorem toList_constLines (d : Emit.Data) :
    (Emit.constLines d).toList = clinesL ((constIds d).map fun i => (i.name, i.value, [])) := by
  simp only [constLines, constIds, toList_cat, clinesL, clineL, List.map_map, Function.comp_def,
    String.toList_append, toList_dec, List.append_assoc, List.nil_append]
  rfl

theorem clinesL_constTriples (d : Emit.Data) (pad : List Char) :
    clinesL (constTriples d pad) = clinesL ((constIds d).map fun i => (i.name, i.value, [])) ++
      (kwConst ++ ("ERROR_ACTION".toList ++ (kwEq ++ (decL d.errC ++ (pad ++ '\n' ::
      (kwConst ++ ("ACCEPT_ACTION".toList ++ (kwEq ++ (decL d.accC ++ ['\n'])))))))))  := by
  simp [constTriples, clinesL, clineL]

theorem toList_constGo (d : Emit.Data) : (Emit.constGo d).toList = clinesL (constTriples d []) := by
  have e1 : "const ERROR_ACTION = ".toList = kwConst ++ ("ERROR_ACTION".toList ++ kwEq) :=
    String.toList_ofList
  have e2 : "\nconst ACCEPT_ACTION = ".toList = '\n' :: (kwConst ++ ("ACCEPT_ACTION".toList ++ kwEq)) :=
    String.toList_ofList
  have e3 : "\n".toList = ['\n'] := String.toList_ofList
  simp only [constGo, String.toList_append, toList_constLines, toList_dec, e1, e2, e3, clinesL_constTriples,
    List.append_assoc, List.cons_append, List.nil_append]

def tsConstHead : List Char := "// const part \n".toList

theorem toList_constTs (d : Emit.Data) :
    (Emit.constTs d).toList = tsConstHead ++ clinesL (constTriples d [' ']) := by
  have e1 : "const ERROR_ACTION = ".toList = kwConst ++ ("ERROR_ACTION".toList ++ kwEq) :=
    String.toList_ofList
  have e2 : " \nconst ACCEPT_ACTION = ".toList = ' ' :: '\n' :: (kwConst ++ ("ACCEPT_ACTION".toList ++ kwEq)) :=
    String.toList_ofList
  have e3 : "\n".toList = ['\n'] := String.toList_ofList
  unfold constTs
  simp only [String.toList_append, toList_constLines, toList_dec, e1, e2, e3, clinesL_constTriples,
    List.append_assoc, List.cons_append, List.nil_append]
  rfl

theorem constTriples_ok (d : Emit.Data)
    (hn : ∀ i ∈ d.ids, i.isTerm = true → Emit.isTemp i.name = false → Emit.GoodName i.name)
    (pad : List Char) (hpad : ∀ c ∈ pad, c = ' ') :
    (∀ t ∈ constTriples d pad, GoodName t.1) ∧ (∀ t ∈ constTriples d pad, ∀ c ∈ t.2.2, c = ' ') := by
  simp only [constTriples, List.forall_mem_append, List.forall_mem_map, List.forall_mem_cons,
    List.not_mem_nil, false_imp_iff, implies_true, and_true, true_and]
  refine ⟨⟨fun i hi => ?_, .ofList _ (by decide), .ofList _ (by decide)⟩, hpad⟩
  simp only [constIds, List.mem_filter, Bool.and_eq_true, Bool.not_eq_true'] at hi
  exact hn i hi.1 hi.2.1 hi.2.2

theorem constTriples_map (d : Emit.Data) (pad : List Char) :
    ((constTriples d pad).map fun t => (t.1, t.2.1)) = constPairs d := by
  simp [constTriples, constPairs, constIds, Function.comp_def]

theorem C11_emit_consts_readback_go (d : Emit.Data)
    (hn : ∀ i ∈ d.ids, i.isTerm = true → Emit.isTemp i.name = false →
      i.name.toList ≠ [] ∧ ∀ c ∈ i.name.toList, c ≠ ' ' ∧ c ≠ '=' ∧ c ≠ '\n') :
    Emit.readConsts (Emit.constGo d) =
      some (((d.ids.filter fun i => i.isTerm && !Emit.isTemp i.name).map fun i => (i.name, i.value)) ++
        [("ERROR_ACTION", d.errC), ("ACCEPT_ACTION", d.accC)]) := by
  obtain ⟨h1, h2⟩ := constTriples_ok d hn [] nofun
  rw [readConsts, toList_constGo, readConstsF_lines _ h1 h2 _ (Nat.lt_succ_self _), constTriples_map]
  rfl

/-- the TypeScript block: the `//` line costs one round, then the lines as in Go -/
theorem C11_emit_consts_readback_ts (d : Emit.Data)
    (hn : ∀ i ∈ d.ids, i.isTerm = true → Emit.isTemp i.name = false →
      i.name.toList ≠ [] ∧ ∀ c ∈ i.name.toList, c ≠ ' ' ∧ c ≠ '=' ∧ c ≠ '\n') :
    Emit.readConsts (Emit.constTs d) =
      some (((d.ids.filter fun i => i.isTerm && !Emit.isTemp i.name).map fun i => (i.name, i.value)) ++
        [("ERROR_ACTION", d.errC), ("ACCEPT_ACTION", d.accC)]) := by
  obtain ⟨h1, h2⟩ := constTriples_ok d hn [' '] (by simp)
  have e : tsConstHead = '/' :: '/' :: (" const part ".toList ++ ['\n']) := String.toList_ofList
  rw [readConsts, toList_constTs, e]
  simp only [List.cons_append, List.append_assoc, List.nil_append]
  rw [readConstsF_comment _ _ _ (by decide +kernel), readConstsF_lines _ h1 h2 _ (by
    simp only [List.length_cons, List.length_append]; omega), constTriples_map]
  rfl

theorem lookup_append_of_absent {β : Type} (l r : List (String × β)) (k : String)
    (h : ∀ p ∈ l, p.1 ≠ k) : (l ++ r).lookup k = r.lookup k := by
  have : l.lookup k = none := by
    rw [List.lookup_eq_none_iff]
    intro p hp
    simpa [bne_iff_ne] using (h p hp).symm
  rw [List.lookup_append, this, Option.none_or]

/-- `hc`: the token constants never shadow the two action codes -/
theorem constPairs_codes (d : Emit.Data)
    (hc : ∀ i ∈ d.ids, i.isTerm = true → Emit.isTemp i.name = false →
      i.name ≠ "ERROR_ACTION" ∧ i.name ≠ "ACCEPT_ACTION") :
    (constPairs d).lookup "ERROR_ACTION" = some d.errC ∧
    (constPairs d).lookup "ACCEPT_ACTION" = some d.accC ∧
    (∀ v, ("ERROR_ACTION", v) ∈ constPairs d → v = d.errC) ∧
    (∀ v, ("ACCEPT_ACTION", v) ∈ constPairs d → v = d.accC) := by
  have habs : ∀ p ∈ (d.ids.filter fun i => i.isTerm && !Emit.isTemp i.name).map (fun i => (i.name, i.value)),
      p.1 ≠ "ERROR_ACTION" ∧ p.1 ≠ "ACCEPT_ACTION" := by
    intro p hp
    obtain ⟨i, hi, rfl⟩ := List.mem_map.1 hp
    simp only [List.mem_filter, Bool.and_eq_true, Bool.not_eq_true'] at hi
    exact hc i hi.1 hi.2.1 hi.2.2
  refine ⟨?_, ?_, fun v hv => ?_, fun v hv => ?_⟩
  · rw [constPairs, lookup_append_of_absent _ _ _ (fun p hp => (habs p hp).1)]
    rfl
  · rw [constPairs, lookup_append_of_absent _ _ _ (fun p hp => (habs p hp).2)]
    rfl
  · rcases List.mem_append.1 hv with h | h
    · exact absurd rfl (habs _ h).1
    · simpa using h
  · rcases List.mem_append.1 hv with h | h
    · exact absurd rfl (habs _ h).2
    · simpa using h

/-- In the emitted Go constant block, the constants named `ERROR_ACTION` / `ACCEPT_ACTION` are exactly the
    codes the table was built with (looked up by name; no other line carries these names). -/
theorem C06_emitted_codes_go (d : Emit.Data)
    (hn : ∀ i ∈ d.ids, i.isTerm = true → Emit.isTemp i.name = false →
      i.name.toList ≠ [] ∧ ∀ c ∈ i.name.toList, c ≠ ' ' ∧ c ≠ '=' ∧ c ≠ '\n')
    (hc : ∀ i ∈ d.ids, i.isTerm = true → Emit.isTemp i.name = false →
      i.name ≠ "ERROR_ACTION" ∧ i.name ≠ "ACCEPT_ACTION") :
    ∃ cs, Emit.readConsts (Emit.constGo d) = some cs ∧
      cs.lookup "ERROR_ACTION" = some d.errC ∧ cs.lookup "ACCEPT_ACTION" = some d.accC ∧
      (∀ v, ("ERROR_ACTION", v) ∈ cs → v = d.errC) ∧ (∀ v, ("ACCEPT_ACTION", v) ∈ cs → v = d.accC) :=
  ⟨constPairs d, C11_emit_consts_readback_go d hn, constPairs_codes d hc⟩

theorem C06_emitted_codes_ts (d : Emit.Data)
    (hn : ∀ i ∈ d.ids, i.isTerm = true → Emit.isTemp i.name = false →
      i.name.toList ≠ [] ∧ ∀ c ∈ i.name.toList, c ≠ ' ' ∧ c ≠ '=' ∧ c ≠ '\n')
    (hc : ∀ i ∈ d.ids, i.isTerm = true → Emit.isTemp i.name = false →
      i.name ≠ "ERROR_ACTION" ∧ i.name ≠ "ACCEPT_ACTION") :
    ∃ cs, Emit.readConsts (Emit.constTs d) = some cs ∧
      cs.lookup "ERROR_ACTION" = some d.errC ∧ cs.lookup "ACCEPT_ACTION" = some d.accC ∧
      (∀ v, ("ERROR_ACTION", v) ∈ cs → v = d.errC) ∧ (∀ v, ("ACCEPT_ACTION", v) ∈ cs → v = d.accC) :=
  ⟨constPairs d, C11_emit_consts_readback_ts d hn, constPairs_codes d hc⟩

/-- without any hypothesis on clashes: the last two `const` lines are the two codes -/
theorem C06_emitted_codes_last (d : Emit.Data)
    (hn : ∀ i ∈ d.ids, i.isTerm = true → Emit.isTemp i.name = false →
      i.name.toList ≠ [] ∧ ∀ c ∈ i.name.toList, c ≠ ' ' ∧ c ≠ '=' ∧ c ≠ '\n') :
    ∃ toks, Emit.readConsts (Emit.constGo d) = some (toks ++ [("ERROR_ACTION", d.errC), ("ACCEPT_ACTION", d.accC)]) ∧
      Emit.readConsts (Emit.constTs d) = some (toks ++ [("ERROR_ACTION", d.errC), ("ACCEPT_ACTION", d.accC)]) :=
  ⟨_, C11_emit_consts_readback_go d hn, C11_emit_consts_readback_ts d hn⟩

theorem lookup_map_nodup {α β : Type} (l : List α) (k : α → Int) (v : α → β) (h : (l.map k).Nodup) :
    ∀ a ∈ l, (l.map fun a => (k a, v a)).lookup (k a) = some (v a) := by
  induction l with
  | nil => intro a ha; cases ha
  | cons x l ih =>
    intro a ha
    rw [List.map_cons, List.nodup_cons] at h
    rcases List.mem_cons.1 ha with rfl | ha'
    · simp
    · have hne : k a ≠ k x := fun e => h.1 (e ▸ List.mem_map_of_mem ha')
      rw [List.map_cons, List.lookup_cons, show (k a == k x) = false by simpa using hne]
      exact ih h.2 a ha'

/-- If the terminals carry pairwise distinct codes, the `switch` read back from the emitted `translate` (Go
    and TypeScript give the same list) is a function on codes: the code of a terminal is mapped to the id of
    that terminal, and a number that is the code of no terminal has no `case`. -/
theorem C11_emit_translate_functional (d : Emit.Data)
    (hd : ((d.syms.filter (!·.isNT)).map (·.value)).Nodup) :
    ∃ ps, Emit.readTranslateGo (Emit.translateGo d) = some ps ∧
      Emit.readTranslateTs (Emit.translateTs d) = some ps ∧
      (∀ s ∈ d.syms, s.isNT = false → ps.lookup s.value = some (s.id : Int)) ∧
      (∀ c : Int, (∀ s ∈ d.syms, s.isNT = false → s.value ≠ c) → ps.lookup c = none) := by
  refine ⟨_, C11_emit_translate_readback_go d, C11_emit_translate_readback_ts d, ?_, ?_⟩
  · intro s hs hnt
    exact lookup_map_nodup (d.syms.filter (!·.isNT)) (·.value) (fun s => (s.id : Int)) hd s
      (by simp [List.mem_filter, hs, hnt])
  · intro c hc
    rw [List.lookup_eq_none_iff]
    intro p hp
    obtain ⟨s, hs, rfl⟩ := List.mem_map.1 hp
    simp only [List.mem_filter, Bool.not_eq_true'] at hs
    simpa [bne_iff_ne] using (hc s hs.1 hs.2).symm

/-- three terminals (one of them the literal `'+'` under its temporary name), one nonterminal, two rows -/
def exData : Emit.Data := {
  ids := [⟨"NUM", true, 257⟩, ⟨"$operator+", true, 43⟩, ⟨"expr", false, 0⟩, ⟨"ID", true, 258⟩],
  syms := [⟨0, false, 0, "$end"⟩, ⟨1, false, 257, "NUM"⟩, ⟨2, false, 43, "$operator+"⟩,
    ⟨3, true, -1, "expr"⟩, ⟨4, false, 258, "ID"⟩],
  rows := [[0, -3, 12, 1000], [5, 0, -1, 7]], need := true,
  act := [1, -2, 30], off := [0, -7], check := [], actdef := [4], gotodef := [-1, 0, 22],
  errC := -1000, accC := 2147483647, rules := [] }

theorem exData_names : ∀ i ∈ exData.ids, i.isTerm = true → Emit.isTemp i.name = false →
    i.name.toList ≠ [] ∧ ∀ c ∈ i.name.toList, c ≠ ' ' ∧ c ≠ '=' ∧ c ≠ '\n' := by
  intro i hi _ _
  simp only [exData, List.mem_cons, List.not_mem_nil, or_false] at hi
  rcases hi with rfl | rfl | rfl | rfl <;> decide

theorem exData_syms : ∀ s ∈ exData.syms, ¬ ['*', '/'] <:+: s.name.toList := by
  intro s hs
  rw [← hasCmtEnd_iff]
  simp only [exData, List.mem_cons, List.not_mem_nil, or_false] at hs
  rcases hs with rfl | rfl | rfl | rfl | rfl <;> simp [hasCmtEnd]

example : Emit.readPacked (Emit.packedGo exData true) = some ([1, -2, 30], [0, -7], [], [4], [-1, 0, 22]) :=
  C05_emit_packed_readback exData rfl

example : Emit.readDenseGo (Emit.denseGo exData false) = some [[0, -3, 12, 1000], [5, 0, -1, 7]] :=
  C01_emit_dense_readback_go exData false rfl exData_syms

example : Emit.readDenseTs (Emit.denseTs exData) = some [[0, -3, 12, 1000], [5, 0, -1, 7]] :=
  C01_emit_dense_readback_ts exData exData_syms

example : Emit.readTranslateGo (Emit.translateGo exData) = some [(0, 0), (257, 1), (43, 2), (258, 4)] :=
  C11_emit_translate_readback_go exData

example : Emit.readTranslateTs (Emit.translateTs exData) = some [(0, 0), (257, 1), (43, 2), (258, 4)] :=
  C11_emit_translate_readback_ts exData

theorem exData_constPairs : constPairs exData =
    [("NUM", 257), ("ID", 258), ("ERROR_ACTION", -1000), ("ACCEPT_ACTION", 2147483647)] := by
  simp [constPairs, exData, Emit.isTemp]

example : Emit.readConsts (Emit.constGo exData) =
    some [("NUM", 257), ("ID", 258), ("ERROR_ACTION", -1000), ("ACCEPT_ACTION", 2147483647)] := by
  rw [← exData_constPairs]; exact C11_emit_consts_readback_go exData exData_names

example : Emit.readConsts (Emit.constTs exData) =
    some [("NUM", 257), ("ID", 258), ("ERROR_ACTION", -1000), ("ACCEPT_ACTION", 2147483647)] := by
  rw [← exData_constPairs]; exact C11_emit_consts_readback_ts exData exData_names

example : ((exData.syms.filter (!·.isNT)).map (·.value)).Nodup := by decide

end Y.Props
