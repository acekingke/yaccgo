import Yv.Gen.Action
import Yv.Model.SplitA
import Yv.Props.C05b
/-! The packed `Action` method of BOTH Go templates, as translated from the template text
    (`Yv/Gen/Action.lean`, regenerated on every run), is the lookup `SplitA.lookupA` of
    `C05_split_lookup` — for every table, every state and every symbol, with no side condition. -/
namespace C05c
open SplitA

theorem idx_nat (l : List Int) (n : Nat) : Gen.idx l (n : Int) = l.getD n 0 := by
  unfold Gen.idx
  have : ¬ ((n : Int) < 0) := by omega
  rw [if_neg this]; rfl

theorem idx_nonneg (l : List Int) (i : Int) (h : 0 ≤ i) : Gen.idx l i = l.getD i.toNat 0 := by
  unfold Gen.idx
  have : ¬ (i < 0) := by omega
  rw [if_neg this]

theorem getD_default_irrel (l : List Int) (n : Nat) (h : n < l.length) (d d' : Int) :
    l.getD n d = l.getD n d' := by
  simp [List.getD_eq_getElem?_getD, List.getElem?_eq_getElem h]

theorem object_is_global : Gen.actionPackedObject = Gen.actionPackedGlobal := rfl

/-- C05 (template side): the packed `Action` method of the package-global template IS `lookupA`.
    A case split on the three guards of the generated text, and `Int` ↔ `Nat` conversion of the indices. -/
theorem C05_action_global (p : PackA.Packed) (s : PackX.Split) (nT : Nat) (err : Int) (q a : Nat) :
    Gen.actionPackedGlobal p.act p.off p.check s.actdef s.gtdef (nT : Int) err (q : Int) (a : Int)
      = lookupA p s nT err q a := by
  unfold Gen.actionPackedGlobal lookupA
  rw [idx_nat p.off q, idx_nat s.actdef q]
  have hd : (if ((a : Int) > (nT : Int)) then Gen.idx s.gtdef (((a : Int) - (nT : Int)) - 1) else s.actdef.getD q 0)
      = (if a > nT then s.gtdef.getD (a - nT - 1) 0 else s.actdef.getD q 0) := by
    by_cases ha : a > nT
    · have ha' : (a : Int) > (nT : Int) := by omega
      have hs : (a : Int) - (nT : Int) - 1 = ((a - nT - 1 : Nat) : Int) := by omega
      rw [if_pos ha, if_pos ha', hs, idx_nat]
    · have ha' : ¬ ((a : Int) > (nT : Int)) := by omega
      rw [if_neg ha, if_neg ha']
  rw [hd]
  by_cases h0 : p.off.getD q 0 + (a : Int) < 0
  · rw [if_pos h0]; simp only [h0, if_true]
  · have h0' : 0 ≤ p.off.getD q 0 + (a : Int) := by omega
    rw [if_neg h0]
    simp only [h0, if_false]
    rw [idx_nonneg _ _ h0', idx_nonneg _ _ h0']
    by_cases hlen : (p.off.getD q 0 + (a : Int)).toNat ≥ p.check.length
    · have hl : p.off.getD q 0 + (a : Int) ≥ Gen.len p.check := by unfold Gen.len; omega
      rw [if_pos (Or.inl hl)]
      simp only [hlen, decide_true, Bool.true_or, if_true]
    · have hl : ¬ (p.off.getD q 0 + (a : Int) ≥ Gen.len p.check) := by unfold Gen.len; omega
      have hlt : (p.off.getD q 0 + (a : Int)).toNat < p.check.length := by omega
      rw [getD_default_irrel p.check _ hlt 0 (-1)]
      by_cases hc : p.check.getD (p.off.getD q 0 + (a : Int)).toNat (-1) = (q : Int)
      · have : ¬ (p.off.getD q 0 + (a : Int) ≥ Gen.len p.check ∨
            p.check.getD (p.off.getD q 0 + (a : Int)).toNat (-1) ≠ (q : Int)) := by
          intro h; rcases h with h | h
          · exact hl h
          · exact h hc
        rw [if_neg this]
        have hb : (decide ((p.off.getD q 0 + (a : Int)).toNat ≥ p.check.length) ||
            (p.check.getD (p.off.getD q 0 + (a : Int)).toNat (-1) != (q : Int))) = false := by
          rw [decide_eq_false hlen, Bool.false_or]; exact bne_eq_false_iff_eq.2 hc
        rw [hb]; rfl
      · rw [if_pos (Or.inr hc)]
        have hb : (decide ((p.off.getD q 0 + (a : Int)).toNat ≥ p.check.length) ||
            (p.check.getD (p.off.getD q 0 + (a : Int)).toNat (-1) != (q : Int))) = true := by
          rw [decide_eq_false hlen, Bool.false_or]; exact bne_iff_ne.2 hc
        rw [hb]; rfl

/-- C05 (template side): the packed `Action` method of the object template IS `lookupA` -/
theorem C05_action_object (p : PackA.Packed) (s : PackX.Split) (nT : Nat) (err : Int) (q a : Nat) :
    Gen.actionPackedObject p.act p.off p.check s.actdef s.gtdef (nT : Int) err (q : Int) (a : Int)
      = lookupA p s nT err q a := by
  rw [object_is_global]; exact C05_action_global p s nT err q a

/-- C05, end to end on the generated code's own text: for a rectangular dense table that meets the
    computed well-formedness predicate, the packed `Action` method (either Go template), run on the
    arrays `packA (trySplit T)`, returns exactly the dense table's cell — for every state and symbol. -/
theorem C05_action_is_dense (T : List (List Int)) (nT nS : Nat) (err : Int)
    (hrect : ∀ r ∈ T, r.length = nS) (hnT : nT < nS) (hwf : DenseWF T nT nS err = true)
    (q a : Nat) (hq : q < T.length) (ha : a < nS) :
    let p := PackA.packA (PackX.trySplit T nT).tab
    let s := PackX.trySplit T nT
    Gen.actionPackedGlobal p.act p.off p.check s.actdef s.gtdef (nT : Int) err (q : Int) (a : Int)
        = (T.getD q []).getD a 0 ∧
    Gen.actionPackedObject p.act p.off p.check s.actdef s.gtdef (nT : Int) err (q : Int) (a : Int)
        = (T.getD q []).getD a 0 := by
  intro p s
  rw [C05_action_global, C05_action_object]
  exact ⟨C05_split_lookup T nT nS err hrect hnT hwf q a hq ha, C05_split_lookup T nT nS err hrect hnT hwf q a hq ha⟩

end C05c
