import Yv.Proofs.DSound
/-! # C06 — syntax errors are reported through the error channel, never by a crash

`C06_safe`: on every table passing the certificates, for every input and every fuel, the driver's
outcome is `accept`, `syntaxError` or `outOfFuel` — never `crash` (no out-of-range state, symbol,
stack slice or goto), and when it reports a syntax error the number of tokens requested is exactly
one more than the number of tokens it has shifted (nothing after the offending token was asked for). -/
namespace Y.Props
open Y Y.D

theorem C06_safe {V : Type} (G : Grammar) (nS : Nat) (A : Auto) (T : Dense)
    (sem : Nat → List V → V) (eofVal bv : V)
    (hG : gramWF G nS = true) (hA : certA G A = true) (hT : certT G nS A T = true)
    (w : List (Sym × V)) (hw : ∀ t ∈ w, t.1 ≤ G.nT ∧ t.1 ≠ 1) (fuel : Nat) :
    run (dparams G T A.n sem eofVal) fuel (init bv w) ≠ .crash ∧
    ∀ c', run (dparams G T A.n sem eofVal) fuel (init bv w) = .syntaxError c' →
      c'.req + c'.rest.length = w.length + 1 := by
  have hinv : ∀ c', Reach (dparams G T A.n sem eofVal) (init bv w) c' → D.Inv G A (w.map Prod.fst) c' :=
    fun c' => reach_inv sem eofVal (gramWF_ok hG) (certA_ok hA) (certT_ok hT) (init_inv bv w hw)
  obtain ⟨_, herr, hcrash⟩ := run_end (dparams G T A.n sem eofVal) fuel (init bv w)
  refine ⟨fun h => ?_, fun c' h => ?_⟩
  · obtain ⟨c', hreach, hs⟩ := hcrash h
    have := step_amove sem eofVal (gramWF_ok hG) (certA_ok hA) (certT_ok hT) (hinv c' hreach)
    rw [hs] at this
    cases this
  · have := (hinv c' (herr c' h).1).cnt
    rwa [List.length_map] at this

end Y.Props
