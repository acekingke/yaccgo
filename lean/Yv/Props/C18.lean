import Yv.Model.Views
import Yv.Props.C01
import Yv.Proofs.LineFacts
/-! # C18 — the DOT graph shows exactly the automaton that the tables implement

`dotView names G A T` (Yv/Model/Views.lean) is the graph that `DrawGrammar` builds from the item
collections `A` and the dense table `T`, kept structured: nodes (state number, item strings, reduce
annotations, accept decoration) and edges (source, target, label).

Nothing extra, nothing missing, numbered as in the tables (`C18_views`): one node per state in order; node
`q` lists the items of state `q`; its annotations are exactly the negative cells of row `q`; it is decorated
iff row `q` holds the accept code; the edges are exactly the shift/goto cells.
The strings determine what they print (symbol and rule of an annotation; left-hand side, right-hand side
and dot of an item), so two automaton/table pairs with the same graph agree on states, items, shift/goto
cells, reduce cells and accepting rows (`C18_determines`); conversely the graph depends only on the item
lists and the classification of the cells.

How a line is read back on its characters is in Yv/Proofs/LineFacts.lean, shared with the text half
(C18b, C18c). -/
namespace Y.Props
open Y

theorem classify_edge (n : Nat) (d : Int) (p : Nat) :
    classify n d = .edge p ↔ d ≠ errCode n ∧ d ≠ accCode n ∧ 0 ≤ d ∧ d.toNat = p := by
  unfold classify; grind

theorem classify_accept (n : Nat) (d : Int) : classify n d = .accept ↔ d = accCode n := by
  unfold classify accCode errCode; grind

theorem classify_reduce (n : Nat) (d : Int) (r : Nat) :
    classify n d = .reduce r ↔ 0 < r ∧ d = -(r : Int) := by
  unfold classify accCode errCode; grind

theorem edge?_eq (c : CellView) (p : Nat) : c.edge? = some p ↔ c = .edge p := by
  cases c <;> simp [CellView.edge?]
theorem reduce?_eq (c : CellView) (r : Nat) : c.reduce? = some r ↔ c = .reduce r := by
  cases c <;> simp [CellView.reduce?]
theorem accept?_eq (c : CellView) : c.accept? = true ↔ c = .accept := by
  cases c <;> simp [CellView.accept?]

theorem cell_eq (T : Dense) (q a : Nat) (d : Int) :
    cell T q a = some d ↔ ∃ row, T[q]? = some row ∧ row[a]? = some d := by
  unfold cell
  cases T[q]? <;> simp

theorem cell_getD (T : Dense) (q a : Nat) : cell T q a = (T.getD q [])[a]? := by
  unfold cell
  rw [List.getD_eq_getElem?_getD]
  cases T[q]? <;> simp

theorem cell_bounds (T : Dense) (nS : Nat) (hrow : ∀ row ∈ T, row.length = nS) (q a : Nat) (d : Int)
    (h : cell T q a = some d) : q < T.length ∧ a < nS := by
  obtain ⟨row, hr, hd⟩ := (cell_eq _ _ _ _).1 h
  have ha := (List.getElem?_eq_some_iff.1 hd).1
  rw [hrow row (List.mem_of_getElem? hr)] at ha
  exact ⟨(List.getElem?_eq_some_iff.1 hr).1, ha⟩

theorem mem_filterMap_zipIdx {α β : Type} (l : List α) (f : α × Nat → Option β) (y : β) :
    y ∈ l.zipIdx.filterMap f ↔ ∃ a x, l[a]? = some x ∧ f (x, a) = some y := by
  rw [List.mem_filterMap]
  exact ⟨fun ⟨⟨x, a⟩, hm, hf⟩ => ⟨a, x, List.mem_zipIdx_iff_getElem?.1 hm, hf⟩,
    fun ⟨a, x, hm, hf⟩ => ⟨(x, a), List.mem_zipIdx_iff_getElem?.2 hm, hf⟩⟩

theorem mem_rowEdges (names : Nat → String) (n q : Nat) (row : List Int) (e : DotEdge) :
    e ∈ rowEdges names n q row ↔
      ∃ a d, row[a]? = some d ∧ classify n d = .edge e.dst ∧ e.src = q ∧ e.label = names a := by
  unfold rowEdges
  rw [mem_filterMap_zipIdx]
  simp only [Option.map_eq_some_iff, edge?_eq]
  constructor
  · rintro ⟨a, d, hm, p, hp, rfl⟩; exact ⟨a, d, hm, hp, rfl, rfl⟩
  · rintro ⟨a, d, hm, hc, hs, hl⟩; exact ⟨a, d, hm, e.dst, hc, by cases e; simp_all⟩

theorem mem_rowReducePairs (n : Nat) (row : List Int) (a r : Nat) :
    (a, r) ∈ rowReducePairs n row ↔ 0 < r ∧ row[a]? = some (-(r : Int)) := by
  unfold rowReducePairs
  rw [mem_filterMap_zipIdx]
  simp only [Option.map_eq_some_iff, reduce?_eq, classify_reduce, Prod.mk.injEq]
  constructor
  · rintro ⟨a', d, hm, r', ⟨h0, rfl⟩, rfl, rfl⟩; exact ⟨h0, hm⟩
  · rintro ⟨h0, hm⟩; exact ⟨a, _, hm, r, ⟨h0, rfl⟩, rfl, rfl⟩

theorem rowFilled_iff (n : Nat) (row : List Int) :
    rowFilled n row = true ↔ ∃ a : Nat, row[a]? = some (accCode n) := by
  unfold rowFilled
  simp only [List.any_eq_true, accept?_eq, classify_accept, List.mem_iff_getElem?]
  exact ⟨fun ⟨d, ⟨a, ha⟩, hd⟩ => ⟨a, hd ▸ ha⟩, fun ⟨a, ha⟩ => ⟨_, ⟨a, ha⟩, rfl⟩⟩

def nodeOf (names : Nat → String) (G : Grammar) (A : Auto) (T : Dense) (q : Nat) : DotNode :=
  { state := q,
    items := (A.its q).map (itemStr names G),
    reduces := rowReduces names A.n (T.getD q []),
    filled := rowFilled A.n (T.getD q []) }

theorem dotView_nodes (names : Nat → String) (G : Grammar) (A : Auto) (T : Dense) :
    (dotView names G A T).nodes = (List.range A.n).map (nodeOf names G A T) := rfl

theorem dot_nodes (names : Nat → String) (G : Grammar) (A : Auto) (T : Dense) :
    (dotView names G A T).nodes.map (·.state) = List.range A.n ∧
    (dotView names G A T).nodes.length = A.n ∧
    ∀ q, q < A.n → ∃ nd, (dotView names G A T).nodes[q]? = some nd ∧ nd.state = q ∧
      nd.items = (A.its q).map (itemStr names G) := by
  rw [dotView_nodes]
  refine ⟨?_, by simp, fun q hq => ⟨_, getElem?_map_range _ hq, rfl, rfl⟩⟩
  rw [List.map_map]
  exact List.map_id'' (fun _ => rfl) _

theorem mem_dot_edges (names : Nat → String) (G : Grammar) (A : Auto) (T : Dense) (e : DotEdge) :
    e ∈ (dotView names G A T).edges ↔
      ∃ a d, cell T e.src a = some d ∧ classify A.n d = .edge e.dst ∧ e.label = names a := by
  show e ∈ T.zipIdx.flatMap (fun x => rowEdges names A.n x.2 x.1) ↔ _
  simp only [List.mem_flatMap, Prod.exists, List.mem_zipIdx_iff_getElem?, mem_rowEdges, cell_eq]
  constructor
  · rintro ⟨row, q, hm, a, d, hd, hc, rfl, hl⟩; exact ⟨a, d, ⟨row, hm, hd⟩, hc, hl⟩
  · rintro ⟨a, d, ⟨row, hr, hd⟩, hk, hl⟩; exact ⟨row, e.src, hr, a, d, hd, hk, rfl, hl⟩

theorem dot_edge_iff (names : Nat → String) (G : Grammar) (A : Auto) (T : Dense)
    (hinj : ∀ a b, names a = names b → a = b) (q p a : Nat) :
    (⟨q, p, names a⟩ : DotEdge) ∈ (dotView names G A T).edges ↔
      ∃ d, cell T q a = some d ∧ classify A.n d = .edge p := by
  rw [mem_dot_edges]
  constructor
  · rintro ⟨a', d, h1, h2, h3⟩
    rw [hinj _ _ h3]; exact ⟨d, h1, h2⟩
  · rintro ⟨d, h1, h2⟩; exact ⟨a, d, h1, h2, rfl⟩

theorem dot_edges_sound (names : Nat → String) (G : Grammar) (nS : Nat) (A : Auto) (T : Dense)
    (hT : T.length = A.n) (hrow : ∀ row ∈ T, row.length = nS) (e : DotEdge)
    (he : e ∈ (dotView names G A T).edges) :
    e.src < A.n ∧ ∃ a, a < nS ∧ e.label = names a ∧ ∃ d, cell T e.src a = some d ∧
      d ≠ errCode A.n ∧ d ≠ accCode A.n ∧ 0 ≤ d ∧ d.toNat = e.dst := by
  obtain ⟨a, d, hc, hk, hl⟩ := (mem_dot_edges _ _ _ _ _).1 he
  obtain ⟨hq, ha⟩ := cell_bounds T nS hrow _ _ _ hc
  exact ⟨hT ▸ hq, a, ha, hl, d, hc, (classify_edge _ _ _).1 hk⟩

theorem dot_edges (names : Nat → String) (G : Grammar) (nS : Nat) (A : Auto) (T : Dense)
    (hT : T.length = A.n) (hrow : ∀ row ∈ T, row.length = nS)
    (hinj : ∀ a b, names a = names b → a = b) (q p a : Nat) :
    (⟨q, p, names a⟩ : DotEdge) ∈ (dotView names G A T).edges ↔
      q < A.n ∧ a < nS ∧ ∃ d, cell T q a = some d ∧
        d ≠ errCode A.n ∧ d ≠ accCode A.n ∧ 0 ≤ d ∧ d.toNat = p := by
  rw [dot_edge_iff names G A T hinj]
  constructor
  · rintro ⟨d, hc, hk⟩
    obtain ⟨hq, ha⟩ := cell_bounds T nS hrow _ _ _ hc
    exact ⟨hT ▸ hq, ha, d, hc, (classify_edge _ _ _).1 hk⟩
  · rintro ⟨_, _, d, hc, hd⟩
    exact ⟨d, hc, (classify_edge _ _ _).2 hd⟩

theorem dot_reduce_pairs (A : Auto) (T : Dense) (q a r : Nat) :
    (a, r) ∈ rowReducePairs A.n (T.getD q []) ↔ 0 < r ∧ cell T q a = some (-(r : Int)) := by
  rw [mem_rowReducePairs, cell_getD]

theorem dot_filled (A : Auto) (T : Dense) (q : Nat) :
    rowFilled A.n (T.getD q []) = true ↔ ∃ a, cell T q a = some (accCode A.n) := by
  simp only [rowFilled_iff, cell_getD]

theorem toString_nat_inj (r r' : Nat) (h : toString r = toString r') : r = r' := by
  apply toDigits_inj
  rw [← toString_nat_toList, ← toString_nat_toList, h]

theorem redStr_toList (names : Nat → String) (e : Sym × Nat) :
    (redStr names e).toList =
      ((names e.1).toList ++ ": reduce rule at ".toList) ++ Nat.toDigits 10 e.2 := by
  rw [redStr, String.toList_append, String.toList_append, toString_nat_toList]

/-- the annotation string determines the symbol and the rule number (read from the right end: the
    digits of the rule start after the last blank; no condition on the characters of the names) -/
theorem redStr_inj (names : Nat → String) (hinj : ∀ a b, names a = names b → a = b)
    (e e' : Sym × Nat) (h : redStr names e = redStr names e') : e = e' := by
  have h1 := congrArg String.toList h
  rw [redStr_toList, redStr_toList] at h1
  obtain ⟨h2, hr⟩ := digits_split_right _ _ _ _ (by simp) (by simp) h1
  exact Prod.ext (hinj _ _ (String.toList_inj.1 (List.append_cancel_right h2))) hr

theorem mem_rowReduces (names : Nat → String) (hinj : ∀ a b, names a = names b → a = b)
    (n : Nat) (row : List Int) (e : Sym × Nat) :
    redStr names e ∈ rowReduces names n row ↔ e ∈ rowReducePairs n row :=
  mem_map_inj_on _ _ _ fun _ _ h => redStr_inj names hinj _ _ h

theorem rhsStr_past (names : Nat → String) (d : Nat) (xs : List Sym) (i : Nat) (h : d < i) :
    (rhsStr names d i xs).toList = (laStr names xs).toList := by
  induction xs generalizing i with
  | nil => rfl
  | cons x xs ih => simp [rhsStr, laStr_cons, Nat.ne_of_gt h, ih (i + 1) (by omega)]

/-- the loop of `ItemToStr` from index `i` with the dot `k` symbols ahead: the symbols before the dot,
    `•`, the symbols after the dot, each symbol after a blank -/
theorem rhsStr_toList (names : Nat → String) (xs : List Sym) (i k : Nat) (hk : k ≤ xs.length) :
    (rhsStr names (i + k) i xs ++ (if i + xs.length = i + k then "•" else "")).toList =
      (laStr names (xs.take k)).toList ++ '•' :: (laStr names (xs.drop k)).toList := by
  induction xs generalizing i k with
  | nil =>
    rw [Nat.le_zero.1 hk]
    simp [rhsStr, laStr]
  | cons x xs ih =>
    cases k with
    | zero => simp [rhsStr, rhsStr_past, laStr]
    | succ k =>
      have := ih (i + 1) k (by simpa using hk)
      rw [show i + 1 + k = i + (k + 1) by omega,
        show i + 1 + xs.length = i + (xs.length + 1) by omega] at this
      simp [rhsStr, laStr_cons, ← this]

theorem itemStr_toList (names : Nat → String) (G : Grammar) (it : Item)
    (hd : it.d ≤ (G.rhsOf it.r).length) :
    (itemStr names G it).toList = (names (G.lhsOf it.r)).toList ++ ("-\\>".toList ++
      (if (G.rhsOf it.r).length = 0 then ['ε'] else
        (laStr names ((G.rhsOf it.r).take it.d)).toList ++
          '•' :: (laStr names ((G.rhsOf it.r).drop it.d)).toList)) := by
  have := rhsStr_toList names (G.rhsOf it.r) 0 it.d hd
  simp only [Nat.zero_add] at this
  rw [← this]
  unfold itemStr
  split <;> simp

/-- the item string determines the item's content: the left-hand side, the right-hand side and the
    position of the dot — for spellings that are injective and contain neither a blank nor `•` (no
    condition on `-`, `\`, `>`: the left-hand side with `-\>` ends at the first blank or `•`, or the
    line ends with `-\>ε`) -/
theorem item_str_injective (names : Nat → String) (G : Grammar)
    (hinj : ∀ a b, names a = names b → a = b)
    (hclean : ∀ x, ∀ c ∈ (names x).toList, ¬ (c = ' ' ∨ c = '•'))
    (it it' : Item) (hd : it.d ≤ (G.rhsOf it.r).length) (hd' : it'.d ≤ (G.rhsOf it'.r).length)
    (h : itemStr names G it = itemStr names G it') :
    G.lhsOf it.r = G.lhsOf it'.r ∧ G.rhsOf it.r = G.rhsOf it'.r ∧ it.d = it'.d := by
  -- the string of an empty right-hand side has no `•`, that of a non-empty one has
  have hne : ∀ (x : Sym) (u v w t : List Char),
      (names x).toList ++ ("-\\>".toList ++ ['ε']) ≠ u ++ (v ++ (w ++ '•' :: t)) :=
    fun x u v w t e => by
      have : '•' ∈ (names x).toList ++ ("-\\>".toList ++ ['ε']) := by rw [e]; simp
      rcases List.mem_append.1 this with hm | hm
      · exact hclean x _ hm (.inr rfl)
      · simp at hm
  have hhd : ∀ xs t, ∀ c ∈ ((laStr names xs).toList ++ '•' :: t).head?, c = ' ' ∨ c = '•' :=
    fun xs t => head?_append_of (fun c hc => .inl (laStr_head names xs c hc)) (by simp)
  have h1 := congrArg String.toList h
  rw [itemStr_toList names G it hd, itemStr_toList names G it' hd'] at h1
  split at h1 <;> split at h1
  · rename_i e e'
    rw [List.eq_nil_of_length_eq_zero e] at hd ⊢
    rw [List.eq_nil_of_length_eq_zero e'] at hd' ⊢
    simp only [← List.append_assoc] at h1
    exact ⟨hinj _ _ (String.toList_inj.1 (List.append_cancel_right (List.append_cancel_right h1))),
      rfl, by simp only [List.length_nil] at hd hd'; omega⟩
  · exact absurd h1 (hne _ _ _ _ _)
  · exact absurd h1.symm (hne _ _ _ _ _)
  · obtain ⟨hl, ht⟩ := name_split names hinj _ hclean "-\\>".toList (by simp) _ _ _ _
      (hhd _ _) (hhd _ _) h1
    obtain ⟨hpre, hpost⟩ := laStr_split names hinj _ (.inl rfl) hclean _ _ _ _ (by simp) (by simp) ht
    exact ⟨hl, take_drop_inj hd hd' hpre
      (laStr_inj names hinj (fun x c hc e => hclean x c hc (.inl e)) _ _ (List.cons.inj hpost).2)⟩

theorem item_str_injective' (names : Nat → String) (G : Grammar)
    (hinj : ∀ a b, names a = names b → a = b)
    (hclean : ∀ x, ∀ c ∈ (names x).toList, ¬ (c = ' ' ∨ c = '•'))
    (hnd : G.rules.Nodup) (it it' : Item)
    (hv : it.r < G.rules.length ∧ it.d ≤ (G.rhsOf it.r).length)
    (hv' : it'.r < G.rules.length ∧ it'.d ≤ (G.rhsOf it'.r).length)
    (h : itemStr names G it = itemStr names G it') : it = it' :=
  item_eq_of_content G hnd hv.1 hv'.1 (item_str_injective names G hinj hclean it it' hv.2 hv'.2 h)

/-- **C18.**  For a rectangular table with one row per state and injective symbol spellings, the graph
    drawn from the automaton `A` and the dense table `T`:
    * has exactly one node per state, in order, numbered `0 … n-1` as the rows of the table;
    * node `q` lists exactly the items of state `q`, in order, each printed by `ItemToStr`;
    * node `q` lists exactly one annotation `a: reduce rule at r` per cell `(q, a) = -r` (`r > 0`), in
      column order, and such an annotation is present iff the cell has that value;
    * node `q` carries the accept decoration iff row `q` contains the accept code;
    * every edge is a shift/goto cell, and `q -a-> p` is an edge iff cell `(q, a)` is a non-negative
      value `p` other than the error and accept codes. -/
theorem C18_views (names : Nat → String) (G : Grammar) (nS : Nat) (A : Auto) (T : Dense)
    (hT : T.length = A.n) (hrow : ∀ row ∈ T, row.length = nS)
    (hinj : ∀ a b, names a = names b → a = b) :
    (dotView names G A T).nodes.map (·.state) = List.range A.n ∧
    (∀ q, q < A.n → ∃ nd, (dotView names G A T).nodes[q]? = some nd ∧ nd.state = q ∧
      nd.items = (A.its q).map (itemStr names G) ∧
      nd.reduces = (rowReducePairs A.n (T.getD q [])).map (redStr names) ∧
      (∀ a r : Nat, (a, r) ∈ rowReducePairs A.n (T.getD q []) ↔
        0 < r ∧ cell T q a = some (-(r : Int))) ∧
      (∀ a r : Nat, names a ++ ": reduce rule at " ++ toString r ∈ nd.reduces ↔
        0 < r ∧ cell T q a = some (-(r : Int))) ∧
      (nd.filled = true ↔ ∃ a, cell T q a = some (accCode A.n))) ∧
    (∀ e ∈ (dotView names G A T).edges,
      e.src < A.n ∧ ∃ a, a < nS ∧ e.label = names a ∧ ∃ d, cell T e.src a = some d ∧
        d ≠ errCode A.n ∧ d ≠ accCode A.n ∧ 0 ≤ d ∧ d.toNat = e.dst) ∧
    (∀ q p a : Nat, (⟨q, p, names a⟩ : DotEdge) ∈ (dotView names G A T).edges ↔
      q < A.n ∧ a < nS ∧ ∃ d, cell T q a = some d ∧
        d ≠ errCode A.n ∧ d ≠ accCode A.n ∧ 0 ≤ d ∧ d.toNat = p) :=
  ⟨(dot_nodes names G A T).1,
    fun q hq => ⟨nodeOf names G A T q, getElem?_map_range _ hq, rfl, rfl, rfl, dot_reduce_pairs A T q,
      fun a r => (mem_rowReduces names hinj _ _ (a, r)).trans (dot_reduce_pairs A T q a r),
      dot_filled A T q⟩,
    dot_edges_sound names G nS A T hT hrow, dot_edges names G nS A T hT hrow hinj⟩

/-- the graph as a function of the item lists and the classified cells only -/
def viewOf (names : Nat → String) (G : Grammar) (items : List (List Item))
    (C : List (List CellView)) : Dot :=
  { nodes := (List.range items.length).map fun q =>
      { state := q,
        items := (items.getD q []).map (itemStr names G),
        reduces := ((C.getD q []).zipIdx.filterMap fun e => (e.1.reduce?).map fun r => (e.2, r)).map
          (redStr names),
        filled := (C.getD q []).any CellView.accept? },
    edges := C.zipIdx.flatMap fun e =>
      e.1.zipIdx.filterMap fun c => (c.1.edge?).map fun p => ⟨e.2, p, names c.2⟩ }

/-- the graph depends on the automaton and the table only through the item lists and the
    classification of the cells (not, e.g., on the automaton's own goto lists) -/
theorem dotView_eq_viewOf (names : Nat → String) (G : Grammar) (A : Auto) (T : Dense) :
    dotView names G A T = viewOf names G A.items (T.map (List.map (classify A.n))) := by
  unfold dotView viewOf
  congr 1
  · apply List.map_congr_left
    intro q _
    rw [getD_map_map]
    unfold rowReduces rowReducePairs rowFilled Auto.its
    rw [List.zipIdx_map, List.filterMap_map, List.any_map]
    rfl
  · rw [List.zipIdx_map, List.flatMap_map]
    unfold rowEdges
    simp only [Prod.map, id, List.zipIdx_map, List.filterMap_map]
    rfl

theorem C18_determined (names : Nat → String) (G : Grammar) (A A' : Auto) (T T' : Dense)
    (hi : A.items = A'.items)
    (hc : T.map (List.map (classify A.n)) = T'.map (List.map (classify A'.n))) :
    dotView names G A T = dotView names G A' T' := by
  rw [dotView_eq_viewOf, dotView_eq_viewOf, hi, hc]

/-- Two automaton/table pairs with the same graph (for spellings that are injective, contain neither a
    blank nor `•`, with no `-` in left-hand-side names; distinct rules; items that are items of the
    grammar) have the same states with the same items, the same shift/goto cells with the same targets,
    the same reduce cells with the same rules, and the same accepting rows.
    The hypothesis `hlhs` on `-` is not used: `item_str_injective` reads the items back without it. -/
theorem C18_determines (names : Nat → String) (G : Grammar) (A A' : Auto) (T T' : Dense)
    (hinj : ∀ a b, names a = names b → a = b)
    (hclean : ∀ x, ∀ c ∈ (names x).toList, ¬ (c = ' ' ∨ c = '•'))
    (hlhs : ∀ r, ∀ c ∈ (names (G.lhsOf r)).toList, ¬ c = '-')
    (hnd : G.rules.Nodup)
    (hval : ∀ q, ∀ it ∈ A.its q, it.r < G.rules.length ∧ it.d ≤ (G.rhsOf it.r).length)
    (hval' : ∀ q, ∀ it ∈ A'.its q, it.r < G.rules.length ∧ it.d ≤ (G.rhsOf it.r).length)
    (h : dotView names G A T = dotView names G A' T') :
    A.items = A'.items ∧
    (∀ q a p, (∃ d, cell T q a = some d ∧ classify A.n d = .edge p) ↔
      (∃ d, cell T' q a = some d ∧ classify A'.n d = .edge p)) ∧
    (∀ q, q < A.n → ∀ a r : Nat, 0 < r →
      (cell T q a = some (-(r : Int)) ↔ cell T' q a = some (-(r : Int)))) ∧
    (∀ q, q < A.n → ((∃ a, cell T q a = some (accCode A.n)) ↔
      (∃ a, cell T' q a = some (accCode A'.n)))) := by
  obtain ⟨hn, hq⟩ := map_range_inj (congrArg Dot.nodes h)
  refine ⟨ext_getD hn fun q hlt => ?_, fun q a p => ?_, fun q hlt a r h0 => ?_, fun q hlt => ?_⟩
  · apply map_inj_on (itemStr names G) _ _ _ (congrArg DotNode.items (hq q hlt))
    exact fun x hx y hy => item_str_injective' names G hinj hclean hnd x y (hval q x hx) (hval' q y hy)
  · rw [← dot_edge_iff names G A T hinj, ← dot_edge_iff names G A' T' hinj, h]
  · have hp : rowReducePairs A.n (T.getD q []) = rowReducePairs A'.n (T'.getD q []) :=
      map_inj_on (redStr names) _ _ (fun x _ y _ => redStr_inj names hinj x y)
        (congrArg DotNode.reduces (hq q hlt))
    have e := (dot_reduce_pairs A T q a r).symm.trans (hp ▸ dot_reduce_pairs A' T' q a r)
    exact ⟨fun hc => (e.1 ⟨h0, hc⟩).2, fun hc => (e.2 ⟨h0, hc⟩).2⟩
  · have e : rowFilled A.n (T.getD q []) = rowFilled A'.n (T'.getD q []) :=
      congrArg DotNode.filled (hq q hlt)
    rw [← dot_filled, ← dot_filled, e]

/-! ## Non-vacuity: the graph of the example automaton of C01
    (`S' → S ; S → a S | b`, symbols `$`=1, `a`=2, `b`=3, `S`=4) -/

def exNames (n : Nat) : String :=
  match n with
  | 0 => "start'" | 1 => "$end" | 2 => "a" | 3 => "b" | 4 => "S" | n + 5 => "x" ++ toString n

example : (dotView exNames exG exA exT).nodes[2]? =
    some ⟨2, ["S-\\>• a S", "S-\\> a• S", "S-\\>• b"], [], false⟩ := by decide +kernel
example : (dotView exNames exG exA exT).nodes[3]? =
    some ⟨3, ["S-\\> b•"], ["$end: reduce rule at 2"], false⟩ := by decide +kernel
example : (dotView exNames exG exA exT).nodes[1]? =
    some ⟨1, ["start'-\\> S•"], [], true⟩ := by decide +kernel
example : (dotView exNames exG exA exT).edges =
    [⟨0, 2, "a"⟩, ⟨0, 3, "b"⟩, ⟨0, 1, "S"⟩, ⟨2, 2, "a"⟩, ⟨2, 3, "b"⟩, ⟨2, 4, "S"⟩] := by decide +kernel
example : (⟨2, 4, "S"⟩ : DotEdge) ∈ (dotView exNames exG exA exT).edges := by decide +kernel
example : (dotView exNames exG exA exT).nodes.map (·.state) = [0, 1, 2, 3, 4] := by decide +kernel
example : (dotView exNames exG exA exT).nodes.map nodeLabel =
    ["\"<f0> state 0|{start'-\\>• S|S-\\>• a S|S-\\>• b}\"",
     "\"<f0> state 1|{start'-\\> S•}\"",
     "\"<f0> state 2|{S-\\>• a S|S-\\> a• S|S-\\>• b}\"",
     "\"<f0> state 3|{S-\\> b•}|{$end: reduce rule at 2}\"",
     "\"<f0> state 4|{S-\\> a S•}|{$end: reduce rule at 1}\""] := by decide +kernel
example : exT.length = exA.n ∧ ∀ row ∈ exT, row.length = 5 := by decide

/-- the hypotheses of `C18_determines` are satisfiable: numbered spellings `s0, s1, …` on the example -/
def numNames (n : Nat) : String := "s" ++ toString n

theorem numNames_toList (n : Nat) : (numNames n).toList = 's' :: Nat.toDigits 10 n := by
  unfold numNames
  rw [String.toList_append, toString_nat_toList]
  rfl

theorem numNames_inj (a b : Nat) (h : numNames a = numNames b) : a = b := by
  have := congrArg String.toList h
  rw [numNames_toList, numNames_toList] at this
  exact toDigits_inj _ _ (List.cons.inj this).2

/-- a numbered spelling consists of `s` and digits: it contains none of the separators -/
theorem numNames_clean (P : Char → Prop) (hs : ¬ P 's') (hd : ∀ c : Char, c.isDigit = true → ¬ P c)
    (n : Nat) : ∀ c ∈ (numNames n).toList, ¬ P c := by
  intro c hc
  rw [numNames_toList, List.mem_cons] at hc
  rcases hc with rfl | hc
  · exact hs
  · exact hd c (Nat.isDigit_of_mem_toDigits (by decide) (by decide) hc)

theorem exA_items_valid :
    ∀ q, ∀ it ∈ exA.its q, it.r < exG.rules.length ∧ it.d ≤ (exG.rhsOf it.r).length := by
  intro q
  match q with
  | 0 | 1 | 2 | 3 | 4 => decide
  | n + 5 => intro it hit; simp [Auto.its, exA] at hit

example :
    (∀ a b, numNames a = numNames b → a = b) ∧
    (∀ x, ∀ c ∈ (numNames x).toList, ¬ (c = ' ' ∨ c = '•')) ∧
    (∀ r, ∀ c ∈ (numNames (exG.lhsOf r)).toList, ¬ c = '-') ∧
    exG.rules.Nodup ∧
    (∀ q, ∀ it ∈ exA.its q, it.r < exG.rules.length ∧ it.d ≤ (exG.rhsOf it.r).length) :=
  ⟨numNames_inj,
    numNames_clean _ (by decide) (fun c h e => by rcases e with rfl | rfl <;> cases h),
    fun _ => numNames_clean _ (by decide) (fun c h e => by subst e; cases h) _,
    by decide, exA_items_valid⟩

#print axioms C18_views
#print axioms C18_determines
#print axioms C18_determined

end Y.Props
