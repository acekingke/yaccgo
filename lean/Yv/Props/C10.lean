import Yv.Proofs.YLexLayout
/-! # C10 — layout does not matter (lexer model)

"Whitespace, line breaks, `//` and `/* */` comments between tokens never change the result."

The statement is about the lexer model `YLex` (`rootStep`, `lexRoot`, `lexAll`), which is tied to the Go lexer by
differential testing.  Vocabulary (defined in `Yv/Proofs/YLexLayout.lean`, `eraseEnd` in `Yv/Proofs/YLexRel.lean`):

* `Gap g` — `g` is a concatenation of layout pieces: a blank, a tab, a newline, a line comment `//…\n`
  (body without newline, closed by a newline), a block comment `/*…*/` whose body has no `*/`.
* `runRoot n st` — `n` iterations of `rootStep` with the emitted tokens concatenated (`lexRoot` is `runRoot` with
  an array accumulator: `lexRoot_eq_run`).
* `eraseEnd t = (t.kind, t.value)` — a token without its end offset; `lexKV cs` — the kinds/values of `lexAll`.
* `BoundaryAt pre ks s` — lexing `pre ++ s` from the root state (nothing pending) emits tokens with kinds/values
  `ks` and is then *again in the root state on exactly `s` with nothing pending* (a token boundary at the end of
  `pre`, for this continuation).  `Boundary pre ks` — the same for every continuation `s`.

The boundary hypothesis is essential and not an artefact: a gap glued into the middle of a token obviously changes
it, and — a fact about this lexer — after a `%`-directive word the lexer keeps looking (over blanks) for further
directive words, so `%token left` and `%token /**/ left` lex differently (`C10_directive_chain_caveat`); the end of
`%token ` is therefore a boundary only for continuations that do not start such a word (`BoundaryAt`), whereas
e.g. `%token A `, `ident `, `;`, `|`, `:`, `{…}`, `%{…%}`, `%union{…}` are boundaries for every continuation. -/
namespace Y.Props
open YLex

/-- From the root state at a token boundary (nothing pending) on `g ++ rest` with `Gap g`, at most
    `g.length` root steps consume exactly `g`, emit no token, and arrive in the root state on `rest`, nothing
    pending, offset advanced by `g.length`. -/
theorem C10_skip_gap {g : List Char} (hg : Gap g) (rest : List Char) (p : Nat) :
    ∃ n, n ≤ g.length ∧ runRoot n ⟨g ++ rest, [], p⟩ = cont [] ⟨rest, [], p + g.length⟩ :=
  skip_gap hg rest p

/-- **Offset independence.** Running the root loop from two states that differ only in their offset gives the
    same token kinds and values and the same "stopped by itself" flag. -/
theorem C10_offset_independent (n : Nat) (rest pend : List Char) (p p' : Nat) (acc acc' : Array Tok)
    (hacc : acc.map eraseEnd = acc'.map eraseEnd) :
    (lexRoot n ⟨rest, pend, p⟩ acc).1.map eraseEnd = (lexRoot n ⟨rest, pend, p'⟩ acc').1.map eraseEnd ∧
      (lexRoot n ⟨rest, pend, p⟩ acc).2 = (lexRoot n ⟨rest, pend, p'⟩ acc').2 := by
  have h := resEq_runRoot n (StEq.mk' rest pend p p')
  simp only [lexRoot_eq_run, Array.map_append, List.map_toArray, hacc, h.toks, h.go, and_self]

/-- **Compositional form.** A gap after a token boundary is again a token boundary, with the same tokens. -/
theorem C10_boundary_gap {pre g : List Char} {ks : List (Kind × String)} (hb : Boundary pre ks) (hg : Gap g) :
    Boundary (pre ++ g) ks := by
  simpa using hb.append hg.boundary

/-- The same for one particular continuation `s`. -/
theorem C10_boundaryAt_gap {pre g s : List Char} {ks : List (Kind × String)}
    (hb : BoundaryAt pre ks (g ++ s)) (hg : Gap g) : BoundaryAt (pre ++ g) ks s := hb.gap hg

/-- **Layout theorem at the `lexRoot` level**, any sufficient fuels. -/
theorem C10_lexRoot_layout {pre g rest : List Char} {ks : List (Kind × String)} (n m : Nat)
    (h1 : BoundaryAt pre ks (g ++ rest)) (h2 : BoundaryAt pre ks rest) (hg : Gap g)
    (hn : (pre ++ g ++ rest).length < n) (hm : (pre ++ rest).length < m) :
    (lexRoot n ⟨pre ++ g ++ rest, [], 0⟩ #[]).1.toList.map eraseEnd =
      (lexRoot m ⟨pre ++ rest, [], 0⟩ #[]).1.toList.map eraseEnd := by
  rw [lexRoot_kv n _ hn, lexRoot_kv m _ hm, layout_at h1 h2 hg]

/-- **Layout theorem for `lexAll`, per-continuation boundary.** -/
theorem C10_lex_layout_at (pre g rest : String) (ks : List (Kind × String))
    (h1 : BoundaryAt pre.toList ks (g.toList ++ rest.toList)) (h2 : BoundaryAt pre.toList ks rest.toList)
    (hg : Gap g.toList) :
    (lexAll (pre ++ g ++ rest)).1.map eraseEnd = (lexAll (pre ++ rest)).1.map eraseEnd ∧
      (lexAll (pre ++ g ++ rest)).2 = (lexAll (pre ++ rest)).2 := by
  refine ⟨?_, by rw [lexAll_total, lexAll_total]⟩
  rw [lexAll_kv_array, lexAll_kv_array]
  simp only [String.toList_append]
  rw [layout_at h1 h2 hg]

/-- **C10 (lexer): layout theorem for `lexAll`.** If the end of `pre` is a token boundary, inserting a gap there
    changes neither the kinds nor the values of the tokens (only their offsets), nor the success flag. -/
theorem C10_lex_layout (pre g rest : String) (ks : List (Kind × String))
    (hb : Boundary pre.toList ks) (hg : Gap g.toList) :
    (lexAll (pre ++ g ++ rest)).1.map eraseEnd = (lexAll (pre ++ rest)).1.map eraseEnd ∧
      (lexAll (pre ++ g ++ rest)).2 = (lexAll (pre ++ rest)).2 :=
  C10_lex_layout_at pre g rest ks (hb _) (hb _) hg

/-- **Whole-file form.** A text made of chunks `c₁ … cₙ`, each ending at a token boundary with tokens `ksᵢ`, with
    arbitrary gaps `g₀ c₁ g₁ … cₙ gₙ` in between, lexes to `ks₁ ++ … ++ ksₙ ++ [EOF]` — whatever the gaps are. -/
theorem C10_layout_chunks (cs : List (List Char × List (Kind × String) × List Char))
    (h : ∀ x ∈ cs, Boundary x.1 x.2.1 ∧ Gap x.2.2) (g0 : List Char) (hg0 : Gap g0) :
    lexKV (g0 ++ (cs.map (fun x => x.1 ++ x.2.2)).flatten) =
      (cs.map (fun x => x.2.1)).flatten ++ [(.eof, "")] := by
  have hb : Boundary ((cs.map (fun x => x.1 ++ x.2.2)).flatten) ((cs.map (fun x => x.2.1)).flatten) := by
    induction cs with
    | nil => exact BoundaryAt.nil
    | cons x xs ih =>
      simp only [List.map_cons, List.flatten_cons]
      have hx := h x (by simp)
      exact (C10_boundary_gap hx.1 hx.2).append (ih (fun y hy => h y (by simp [hy])))
  have := lexKV_split ((hg0.boundary.append hb) [])
  simpa [lexKV_nil] using this

/-- **Opaque bodies are carried verbatim: `{action}`.** From the root state on `{body}rest` with brace-balanced
    `body`, one root step emits exactly one `actionQuote` token whose value is `{body}` and continues on `rest`. -/
theorem C10_action_verbatim (body rest : List Char) (p : Nat) (hb : Balanced body) :
    rootStep ⟨'{' :: body ++ '}' :: rest, [], p⟩ =
      cont [⟨.actionQuote, String.ofList ('{' :: body ++ ['}']), p + (body.length + 2)⟩]
        ⟨rest, [], p + (body.length + 2)⟩ := by
  have h0 (st : St) : dispatch '{' st = actionQuoteState st := rfl
  have h1 : braceLen (body ++ '}' :: rest) 1 0 = some (body.length + 1) := by
    rw [braceLen_eq _ 0 0 [], unionBody_body hb]; rfl
  rw [List.cons_append, rootStep_cons _ _ _ _ (by decide), h0]
  unfold actionQuoteState
  simp only [h1]
  simp [adv_eq, List.take_length_add_append, cont, St.tok, St.word, St.ignore]; omega

/-- `%{body%}` with no `%}` inside `body`: one `codeQuote` token whose value is exactly `body`. -/
theorem C10_prologue_verbatim (body rest : List Char) (p : Nat) (hb : NoPair '%' '}' body) :
    rootStep ⟨'%' :: '{' :: body ++ '%' :: '}' :: rest, [], p⟩ =
      cont [⟨.codeQuote, String.ofList body, p + (body.length + 4)⟩] ⟨rest, [], p + (body.length + 4)⟩ := by
  rw [List.cons_append, rootStep_cons _ _ _ _ (by decide), dispatch_percent]
  show codeQuoteBegin ⟨body ++ '%' :: '}' :: rest, ['{', '%'], p + 1 + 1⟩ = _
  unfold codeQuoteBegin
  simp only [codeQuoteBody_body body rest [] 0 hb, Nat.zero_add]
  simp [adv_eq, cont, St.tokV, St.ignore]; omega

/-- `%union ws {body}` (`ws` blanks/tabs/newlines, `body` brace-balanced): one `unionDir` token with value `body`. -/
theorem C10_union_verbatim (ws body rest : List Char) (p : Nat) (hws : ∀ x ∈ ws, isBlank3 x = true)
    (hb : Balanced body) :
    rootStep ⟨'%' :: 'u' :: 'n' :: 'i' :: 'o' :: 'n' :: ws ++ '{' :: body ++ '}' :: rest, [], p⟩ =
      cont [⟨.unionDir, String.ofList body, p + (ws.length + body.length + 8)⟩]
        ⟨rest, [], p + (ws.length + body.length + 8)⟩ := by
  -- `union` is followed by a blank or by the brace, not by a letter
  have hX : ∀ c t, ws ++ '{' :: body ++ '}' :: rest = c :: t → isLetter c = false := by
    intro c t e
    cases ws with
    | nil => cases e; rfl
    | cons w ws' => cases e; obtain rfl | rfl | rfl := isBlank3_iff.mp (hws c (by simp)) <;> rfl
  have hit := acceptAlpha_hit 'u' ['n', 'i', 'o', 'n'] _ ['%'] (p + 1) rfl hX
  simp only [List.cons_append]
  rw [rootStep_cons _ _ _ _ (by decide), dispatch_percent, directiveState_other _ _ _ _ (by decide) (by decide)]
  refine (directiveOther_union (acceptAlpha_miss ['t', 'y', 'p', 'e'] _ rfl)
    (acceptAlpha_miss ['t', 'o', 'k', 'e', 'n'] _ rfl) hit).trans ?_
  rw [directiveUnion_body ws body rest _ _ hws hb]
  simp [cont]; omega

/-! Hence these three are boundaries whatever follows. -/

theorem _root_.YLex.boundary_action {body : List Char} (hb : Balanced body) :
    Boundary ('{' :: body ++ ['}']) [(.actionQuote, String.ofList ('{' :: body ++ ['}']))] :=
  fun s => .step (by
    simpa only [List.append_assoc, List.cons_append, List.nil_append] using C10_action_verbatim body s 0 hb)

theorem _root_.YLex.boundary_prologue {body : List Char} (hb : NoPair '%' '}' body) :
    Boundary ('%' :: '{' :: body ++ ['%', '}']) [(.codeQuote, String.ofList body)] :=
  fun s => .step (by
    simpa only [List.append_assoc, List.cons_append, List.nil_append] using C10_prologue_verbatim body s 0 hb)

theorem _root_.YLex.boundary_union {ws body : List Char} (hws : ∀ x ∈ ws, isBlank3 x = true) (hb : Balanced body) :
    Boundary ('%' :: 'u' :: 'n' :: 'i' :: 'o' :: 'n' :: ws ++ '{' :: body ++ ['}'])
      [(.unionDir, String.ofList body)] :=
  fun s => .step (by
    simpa only [List.append_assoc, List.cons_append, List.nil_append] using C10_union_verbatim ws body s 0 hws hb)

/-! ## non-vacuity -/

example : (lexAll "%token A B").1.toList.map eraseEnd =
    (lexAll "%token /* c */ A // x\n\tB").1.toList.map eraseEnd := by
  -- a literal is `String.ofList` of its characters: this way they are not decoded from UTF-8 again
  rw [lexAll_kv, lexAll_kv, show "%token A B".toList = _ from String.toList_ofList,
    show "%token /* c */ A // x\n\tB".toList = _ from String.toList_ofList]
  decide +kernel

example : (lexAll "%token A B").1.toList.map eraseEnd =
    [(.tokenDir, "%token"), (.identifier, "A"), (.identifier, "B"), (.eof, "")] := by decide +kernel

theorem gap_example : Gap " /* c */ // x\n\t".toList := by
  rw [show " /* c */ // x\n\t".toList = _ from String.toList_ofList]
  exact Gap.blank ' ' _ rfl (Gap.block [' ', 'c', ' '] _ (by simp [NoPair]) (Gap.blank ' ' _ rfl
    (Gap.line [' ', 'x'] _ (by decide) (Gap.blank '\t' _ rfl Gap.nil))))

/-- boundaries: `%token A ` for every continuation (also `boundary_ident`, `boundary_ruleEnd`, `boundary_action`, …) -/
example : Boundary "%token A ".toList [(.tokenDir, "%token"), (.identifier, "A")] := boundary_token_A
example : Boundary "expr\n".toList [(.identifier, "expr")] :=
  boundary_ident 'e' ['x', 'p', 'r'] '\n' (by decide) (by decide) (by decide)
local macro "bal_char" : tactic => `(tactic| refine Balanced.char _ _ (by decide) (by decide) ?_)
example : Boundary ('{' :: [' ', '$', '$', ' ', '=', ' ', '{', '1', '}', ';', ' '] ++ ['}'])
    [(.actionQuote, "{ $$ = {1}; }")] :=
  boundary_action (by
    bal_char; bal_char; bal_char; bal_char; bal_char; bal_char
    exact Balanced.nest ['1'] [';', ' '] (by bal_char; exact .nil) (by bal_char; bal_char; exact .nil))

/-- the theorem instantiated: a gap after `%token A ` -/
example (rest : String) :
    (lexAll ("%token A " ++ " /* c */ // x\n\t" ++ rest)).1.map eraseEnd =
      (lexAll ("%token A " ++ rest)).1.map eraseEnd :=
  (C10_lex_layout "%token A " " /* c */ // x\n\t" rest _ boundary_token_A gap_example).1

/-- The boundary hypothesis cannot be dropped: inside a directive chain a comment changes the tokens. -/
theorem C10_directive_chain_caveat :
    lexKV "%token left".toList = [(.tokenDir, "%token"), (.leftAssoc, " left"), (.eof, "")] ∧
    lexKV "%token /**/ left".toList = [(.tokenDir, "%token"), (.identifier, "left"), (.eof, "")] := by
  rw [show "%token left".toList = _ from String.toList_ofList,
    show "%token /**/ left".toList = _ from String.toList_ofList]
  decide +kernel

end Y.Props
