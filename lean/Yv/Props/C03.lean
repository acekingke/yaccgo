import Yv.Proofs.LAOracleFacts
/-! # C03 — the lookahead set attached to each reduction equals the LALR(1) lookahead set

`laL G nS A` (`Yv/Cert/LAOracle.lean`) is an executable oracle that computes, for the LR(0)
automaton `A` given as data, a lookahead list for every item of every state.  This file proves it
**exact**: whenever it returns a table `t` (i.e. the computed nullable/FIRST sets passed
`setsClosed` and the computed table passed `laClosed`) and the grammar passes the decidable check
`prodOK` (the end marker is a terminal; every left-hand side and every right-hand-side symbol
derives some terminal string), then

* `a ∈ t.get q it ↔ LA G A.goto q it a` — membership in the table is exactly the least solution of
  the LALR(1) propagation rules init / closure / goto over the automaton, and hence (`LA_iff`)
* `a ∈ t.get q it ↔ ∃ γ, pathr A.goto γ = some q ∧ St1 G γ it a` — exactly the union of the LR(1)
  lookaheads of `it` over all canonical LR(1) states whose access path leads to `q` (= the LR(1)
  states with the same core).

The harness compares `laLines G A t` (the lookaheads of the complete items) with the lookahead
sets the implementation attaches to its reductions.

Completeness (`←`) needs only that the table was returned and `0 < A.n`; it also yields that the
state is a state of `A` and the item an item of that state.  Soundness (`→`) needs `prodOK`
(because `FirstOf` speaks about derivable *terminal strings*) and no assumption at all on `A`. -/
namespace Y.Props
open Y

theorem C03_oracle_exact (G : Grammar) (nS : Nat) (A : Auto) (t : LATab)
    (h : laL G nS A = some t) (hp : prodOK G nS = true) (hn : 0 < A.n)
    (q : Nat) (it : Item) (a : Sym) :
    a ∈ t.get q it ↔ LA G A.goto q it a :=
  ⟨fun ha => laL_sound h hp ha, fun hla => (laL_complete h hn hla).2.2⟩

theorem C03_oracle_range (G : Grammar) (nS : Nat) (A : Auto) (t : LATab)
    (h : laL G nS A = some t) (hp : prodOK G nS = true) (hn : 0 < A.n)
    (q : Nat) (it : Item) (a : Sym) (ha : a ∈ t.get q it) : q < A.n ∧ it ∈ A.its q :=
  have := laL_complete h hn (laL_sound h hp ha)
  ⟨this.1, this.2.1⟩

theorem C03_oracle_lr1 (G : Grammar) (nS : Nat) (A : Auto) (t : LATab)
    (h : laL G nS A = some t) (hp : prodOK G nS = true) (hn : 0 < A.n)
    (q : Nat) (it : Item) (a : Sym) :
    a ∈ t.get q it ↔ ∃ γ, pathr A.goto γ = some q ∧ St1 G γ it a :=
  (C03_oracle_exact G nS A t h hp hn q it a).trans (LA_iff G A.goto q it a)

/-- what the harness prints: every line `(q, r, las)` of `laLines` is a complete item of state `q`
    with `las` listing exactly its LALR(1) lookaheads -/
theorem C03_laLines (G : Grammar) (nS : Nat) (A : Auto) (t : LATab)
    (h : laL G nS A = some t) (hp : prodOK G nS = true) (hn : 0 < A.n)
    (q r : Nat) (las : List Sym) (hl : (q, r, las) ∈ laLines G A t) :
    q < A.n ∧ (⟨r, (G.rhsOf r).length⟩ : Item) ∈ A.its q ∧
      ∀ a, a ∈ las ↔ LA G A.goto q ⟨r, (G.rhsOf r).length⟩ a := by
  obtain ⟨hq, hit, rfl⟩ := mem_linesOf (la := t.get) hl
  exact ⟨hq, hit, fun a => mem_sortS.trans (C03_oracle_exact G nS A t h hp hn q _ a)⟩

/-! ## Non-vacuity

`S' → S ; S → L = R | R ; L → * R | id ; R → L` with terminals `$`=1, `=`=2, `*`=3, `id`=4 and
nonterminals `S`=5, `L`=6, `R`=7 — the textbook grammar that is LALR(1) but not SLR(1).  State 2 is
`{S → L · = R, R → L ·}`; the oracle gives `R → L ·` the lookahead `$` only there (line
`(2, 5, [1])`), while FOLLOW(R) also contains `=`. -/

def laG : Grammar :=
  { nT := 4, rules := [⟨0, [5]⟩, ⟨5, [6, 2, 7]⟩, ⟨5, [7]⟩, ⟨6, [3, 7]⟩, ⟨6, [4]⟩, ⟨7, [6]⟩] }

def laA : Auto :=
  { items := [[⟨0,0⟩, ⟨1,0⟩, ⟨2,0⟩, ⟨3,0⟩, ⟨4,0⟩, ⟨5,0⟩], [⟨0,1⟩], [⟨1,1⟩, ⟨5,1⟩], [⟨2,1⟩],
              [⟨3,0⟩, ⟨3,1⟩, ⟨4,0⟩, ⟨5,0⟩], [⟨4,1⟩], [⟨1,2⟩, ⟨3,0⟩, ⟨4,0⟩, ⟨5,0⟩], [⟨3,2⟩], [⟨5,1⟩],
              [⟨1,3⟩]],
    gotos := [[(5,1), (6,2), (7,3), (3,4), (4,5)], [], [(2,6)], [], [(3,4), (7,7), (4,5), (6,8)],
              [], [(7,9), (3,4), (4,5), (6,8)], [], [], []] }

theorem laG_prodOK : prodOK laG 8 = true := by decide +kernel

example : prodOK laG 8 = true := laG_prodOK

theorem laG_lines : (laL laG 8 laA).map (laLines laG laA) =
    some [(1, 0, [1]), (2, 5, [1]), (3, 2, [1]), (5, 4, [1, 2]), (7, 3, [1, 2]), (8, 5, [1, 2]),
          (9, 1, [1])] := by decide +kernel

/-- consequence, through `C03_laLines`: in state 2 the LALR(1) lookahead set of `R → L ·` is
    exactly `{$}` -/
example : ∀ a, LA laG laA.goto 2 ⟨5, 1⟩ a ↔ a = 1 := by
  obtain ⟨t, h, e⟩ := Option.map_eq_some_iff.mp laG_lines
  have hm : (2, 5, [1]) ∈ laLines laG laA t := by rw [e]; decide
  intro a
  exact ((C03_laLines laG 8 laA t h laG_prodOK (by decide) 2 5 [1] hm).2.2 a).symm.trans (by simp)

end Y.Props
