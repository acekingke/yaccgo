import Yv.Model.Digraph
import Yv.Proofs.LAOracleFacts
/-! Generic facts for the DeRemer–Pennello model: `Sol`, the least solution of `F i ⊇ init i ∪ ⋃ {F j | (i, j) ∈ rel}`
    as a proposition (shared with the `Digraph` model), the solver `solve` that computes it, and the stable sort `sortQ`. -/
namespace Y.DP
open Y

/-! ## `solve` computes the least solution -/

/-- `a` belongs at `u` to the least solution of `F u = Fp u ∪ ⋃ {F w | (u, w) ∈ R}`, which is the union
    of `Fp` over the nodes reachable from `u` -/
def Sol (R : List (Nat × Nat)) (Fp : Nat → List Nat) (u a : Nat) : Prop :=
  ∃ v, DG.Reach R u v ∧ a ∈ Fp v

theorem Sol.step {R : List (Nat × Nat)} {Fp : Nat → List Nat} {u w a : Nat} (h : (u, w) ∈ R)
    (hs : Sol R Fp w a) : Sol R Fp u a :=
  hs.elim fun v hv => ⟨v, .head u w v h hv.1, hv.2⟩

theorem mem_getD_map_sortS {init : List (List Sym)} {i : Nat} {a : Sym} :
    a ∈ (init.map sortS).getD i [] ↔ a ∈ init.getD i [] := by
  simp only [List.getD_eq_getElem?_getD, List.getElem?_map]
  cases init[i]? <;> simp [mem_sortS]

/-- every element recorded in `F` belongs to the least solution -/
def Sound (init : List (List Sym)) (rel : List (Nat × Nat)) (F : List (List Sym)) : Prop :=
  ∀ i a, a ∈ F.getD i [] → Sol rel (init.getD · []) i a

theorem solveIter_sound {fuel : Nat} {init : List (List Sym)} {rel : List (Nat × Nat)} :
    Sound init rel (solveIter fuel init rel) := by
  refine iterStop_inv (Sound init rel) _ _ (fun F hF => ?_) _ _
    (fun i a ha => ⟨i, .refl i, mem_getD_map_sortS.mp ha⟩)
  exact List.foldlRecOn rel _ hF fun s hs e he =>
    tab_modAt_unionS hs fun a ha => .step he (hs e.2 a ha)

/-- a result that passed `relClosed` is exactly the least solution -/
theorem solve_spec {fuel : Nat} {init : List (List Sym)} {rel : List (Nat × Nat)}
    {F : List (List Sym)} (h : solve fuel init rel = some F) (i : Nat) (a : Sym) :
    a ∈ F.getD i [] ↔ Sol rel (init.getD · []) i a := by
  unfold solve at h
  split at h
  · rename_i hc
    cases h
    simp only [relClosed, Bool.and_eq_true, List.all_eq_true, List.contains_eq_mem,
      decide_eq_true_eq] at hc
    refine ⟨solveIter_sound i a, ?_⟩
    rintro ⟨v, hv, ha⟩
    induction hv with
    | refl i =>
      simp only [List.getD_eq_getElem?_getD] at ha
      cases hi : init[i]? with
      | none => rw [hi] at ha; cases ha
      | some l => exact hc.1 (l, i) (List.mem_zipIdx_iff_getElem?.mpr hi) a (by simpa [hi] using ha)
    | head i j _ hij _ ih => exact hc.2 (i, j) hij a (ih ha)
  · cases h

/-! ## `sortQ` is a permutation -/

theorem perm_insQ (x : Tr) : ∀ (l : List Tr), (insQ x l).Perm (x :: l)
  | [] => .refl _
  | y :: ys => by
    unfold insQ
    split
    · exact .refl _
    · exact ((perm_insQ x ys).cons y).trans (.swap x y ys)

theorem perm_sortQ : ∀ (l : List Tr), (sortQ l).Perm l
  | [] => .refl _
  | x :: xs => (perm_insQ x (sortQ xs)).trans ((perm_sortQ xs).cons x)

end Y.DP
