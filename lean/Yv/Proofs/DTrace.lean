import Yv.Proofs.DSound
/-! The trace of the driver model replayed against the LR automaton (C17).

`replayStep` consumes one trace event on a pair (state stack, remaining input symbols):
  * `shift X p`   — the top state must have the edge `X → p`; a terminal `X` must be the next input
                    symbol and is consumed; `p` is pushed;
  * `reduce la r g` — `la` must be the current lookahead (next input symbol, or the end marker `1`),
                    rule `r` exists, its right-hand side is popped, and the uncovered state must have
                    the edge `lhs r → g` (the push itself is the `shift` event that follows).
`TInv` says: replaying the whole trace so far from `([0], w)` succeeds and ends exactly in the
driver's current stack of states and remaining input; the `reduce` events, in order, are the
reductions performed. -/
namespace Y.D
open Y
variable {V : Type}

def replayStep (G : Grammar) (A : Auto) : Option (List Nat × List Sym) → Ev → Option (List Nat × List Sym)
  | none, _ => none
  | some (st, inp), .shift X p =>
    match st with
    | [] => none
    | q :: _ =>
      if A.goto q X = some p then
        if G.isT X then
          match inp with
          | a :: inp' => if a = X then some (p :: st, inp') else none
          | [] => none
        else some (p :: st, inp)
      else none
  | some (st, inp), .reduce la r g =>
    match G.rules[r]? with
    | none => none
    | some rl =>
      if la = inp.headD 1 ∧ rl.rhs.length < st.length ∧
          A.goto (stTopN (st.drop rl.rhs.length)) rl.lhs = some g then
        some (st.drop rl.rhs.length, inp)
      else none
where
  stTopN : List Nat → Nat
    | [] => 0
    | q :: _ => q

def replay (G : Grammar) (A : Auto) (evs : List Ev) (s0 : List Nat × List Sym) : Option (List Nat × List Sym) :=
  evs.foldl (replayStep G A) (some s0)

theorem replay_snoc (G : Grammar) (A : Auto) (evs : List Ev) (e : Ev) (s0 : List Nat × List Sym) :
    replay G A (evs ++ [e]) s0 = replayStep G A (replay G A evs s0) e := by
  simp [replay, List.foldl_append]

def ruleOf : Ev → Option Nat
  | .reduce _ r _ => some r
  | .shift _ _ => none

structure TInv (G : Grammar) (A : Auto) (w : List Sym) (c : Cfg V) : Prop where
  rep : replay G A c.trace.reverse ([0], w) = some (c.stack.map Entry.st, c.rest.map Prod.fst)
  reds : c.trace.reverse.filterMap ruleOf = c.reds.reverse

theorem tinv_init (G : Grammar) (A : Auto) (bv : V) (w : List (Sym × V)) :
    TInv G A (w.map Prod.fst) (init bv w) := by
  constructor <;> simp [init, replay]

theorem stTopN_map (st : List (Entry V)) : replayStep.stTopN (st.map Entry.st) = stTop st := by
  cases st <;> rfl

theorem TInv.next {G : Grammar} {A : Auto} {w : List Sym} {sem : Nat → List V → V} {ev : V}
    {c c' : Cfg V} (hne : c.stack ≠ []) (ht : TInv G A w c) (hs : AMove G A sem ev c (.next c')) :
    TInv G A w c' := by
  obtain ⟨hrep, hreds⟩ := ht
  cases hs with
  | @shift x xs p hrest hx hg =>
    constructor
    · simp only [List.reverse_cons, replay_snoc, hrep, hrest]
      obtain ⟨top, below, hst⟩ := List.exists_cons_of_ne_nil hne
      rw [hst] at hg ⊢
      simp [replayStep, show A.goto top.st x.1 = some p from hg, hx]
    · simp only [List.reverse_cons, List.filterMap_append, hreds]
      simp [ruleOf]
  | @reduce r rl p hr0 hrl hnt hit hn hg =>
    constructor
    · have hlen : rl.rhs.length < (c.stack.map Entry.st).length := by rw [List.length_map]; exact hn
      have hgo : A.goto (replayStep.stTopN ((c.stack.map Entry.st).drop rl.rhs.length)) rl.lhs = some p := by
        rw [← List.map_drop, stTopN_map]; exact hg
      obtain ⟨q, tl, hd⟩ := List.exists_cons_of_ne_nil (mt List.drop_eq_nil_iff.mp (Nat.not_le.mpr hlen))
      show replay G A (Ev.shift rl.lhs p :: Ev.reduce (look ev c).1 r p :: c.trace).reverse ([0], w) = _
      rw [List.reverse_cons, List.reverse_cons, replay_snoc, replay_snoc, hrep]
      simp only [replayStep, hrl, look_fst, hlen, hgo, and_self, if_true]
      rw [hd] at hgo ⊢
      simp only [show A.goto q rl.lhs = some p from hgo, hnt, if_true, Bool.false_eq_true, if_false,
        List.map_cons, List.map_drop, hd]
    · simp only [List.reverse_cons, List.filterMap_append, List.append_assoc]
      simp [ruleOf, hreds]

end Y.D
