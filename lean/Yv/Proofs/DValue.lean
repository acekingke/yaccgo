import Yv.Proofs.DSound
/-! Value invariant of the concrete driver: the values on the stack are the bottom-up evaluation of
    the semantic actions over the parse forest of the consumed input, and the reductions performed
    (oldest first) are the bottom-up left-to-right rule sequence of that forest. -/
namespace Y

/-- `Vals G sem γ u vs rs`: the symbol sequence `γ` derives the token/value list `u`; the values of
    the `γ`-symbols are `vs` (a token's value is the one the lexer delivered, a nonterminal's value
    is `sem r` applied to the values of its children in order); `rs` is the sequence of rule numbers
    in the order a bottom-up left-to-right parser performs the reductions. -/
inductive Vals {V : Type} (G : Grammar) (sem : Nat → List V → V) :
    List Sym → List (Sym × V) → List V → List Nat → Prop
  | nil : Vals G sem [] [] [] []
  | tm (t : Sym) (v : V) (γ : List Sym) (u : List (Sym × V)) (vs : List V) (rs : List Nat) :
      G.isT t = true → Vals G sem γ u vs rs → Vals G sem (t :: γ) ((t, v) :: u) (v :: vs) rs
  | nt (r : Nat) (rl : Rule) (γ : List Sym) (u1 u2 : List (Sym × V)) (vs1 vs : List V)
      (rs1 rs2 : List Nat) :
      G.rules[r]? = some rl → Vals G sem rl.rhs u1 vs1 rs1 → Vals G sem γ u2 vs rs2 →
      Vals G sem (rl.lhs :: γ) (u1 ++ u2) (sem r vs1 :: vs) (rs1 ++ [r] ++ rs2)

namespace Vals
variable {V : Type} {G : Grammar} {sem : Nat → List V → V}

theorem length_eq {γ : List Sym} {u : List (Sym × V)} {vs : List V} {rs : List Nat}
    (h : Vals G sem γ u vs rs) : vs.length = γ.length := by
  induction h with
  | nil => rfl
  | tm t v γ u vs rs _ _ ih => simp only [List.length_cons, ih]
  | nt r rl γ u1 u2 vs1 vs rs1 rs2 _ _ _ _ ih => simp only [List.length_cons, ih]

theorem append {γ1 γ2 : List Sym} {u1 u2 : List (Sym × V)} {vs1 vs2 : List V} {rs1 rs2 : List Nat}
    (h1 : Vals G sem γ1 u1 vs1 rs1) (h2 : Vals G sem γ2 u2 vs2 rs2) :
    Vals G sem (γ1 ++ γ2) (u1 ++ u2) (vs1 ++ vs2) (rs1 ++ rs2) := by
  induction h1 with
  | nil => simpa only [List.nil_append] using h2
  | tm t v γ u vs rs ht _ ih =>
    simp only [List.cons_append]
    exact Vals.tm t v _ _ _ _ ht ih
  | nt r rl γ ua ub vsa vs rsa rsb hr ha _ _ ih =>
    have := Vals.nt r rl _ _ _ _ _ _ _ hr ha ih
    simp only [List.cons_append, List.append_assoc] at this ⊢
    exact this

theorem split : ∀ (γ1 γ2 : List Sym) (u : List (Sym × V)) (vs : List V) (rs : List Nat),
    Vals G sem (γ1 ++ γ2) u vs rs →
    ∃ u1 u2 vs1 vs2 rs1 rs2, u = u1 ++ u2 ∧ vs = vs1 ++ vs2 ∧ rs = rs1 ++ rs2 ∧
      Vals G sem γ1 u1 vs1 rs1 ∧ Vals G sem γ2 u2 vs2 rs2 := by
  intro γ1
  induction γ1 with
  | nil =>
    intro γ2 u vs rs h
    exact ⟨[], u, [], vs, [], rs, rfl, rfl, rfl, Vals.nil, by simpa only [List.nil_append] using h⟩
  | cons x γ1 ih =>
    intro γ2 u vs rs h
    rw [List.cons_append] at h
    cases h with
    | tm t v γ u' vs' rs' ht h' =>
      obtain ⟨u1, u2, vs1, vs2, rs1, rs2, rfl, rfl, rfl, ha, hb⟩ := ih γ2 _ _ _ h'
      exact ⟨(x, v) :: u1, u2, v :: vs1, vs2, rs1, rs2, rfl, rfl, rfl, Vals.tm x v _ _ _ _ ht ha, hb⟩
    | nt r rl γ ua ub vsa vs' rsa rsb hr ha h' =>
      obtain ⟨u1, u2, vs1, vs2, rs1, rs2, rfl, rfl, rfl, hc, hb⟩ := ih γ2 _ _ _ h'
      refine ⟨ua ++ u1, u2, sem r vsa :: vs1, vs2, rsa ++ [r] ++ rs1, rs2, ?_, rfl, ?_,
        Vals.nt r rl _ _ _ _ _ _ _ hr ha hc, hb⟩
      · simp only [List.append_assoc]
      · simp only [List.append_assoc]

theorem snoc_tm {γ : List Sym} {u : List (Sym × V)} {vs : List V} {rs : List Nat}
    (h : Vals G sem γ u vs rs) (x : Sym × V) (ht : G.isT x.1 = true) :
    Vals G sem (γ ++ [x.1]) (u ++ [x]) (vs ++ [x.2]) rs := by
  have := append h (Vals.tm x.1 x.2 [] [] [] [] ht Vals.nil)
  simpa only [List.append_nil] using this

theorem snoc_nt {pre : List Sym} {u1 u2 : List (Sym × V)} {vs1 args : List V} {rs1 rs2 : List Nat}
    {r : Nat} {rl : Rule} (hr : G.rules[r]? = some rl)
    (h1 : Vals G sem pre u1 vs1 rs1) (h2 : Vals G sem rl.rhs u2 args rs2) :
    Vals G sem (pre ++ [rl.lhs]) (u1 ++ u2) (vs1 ++ [sem r args]) (rs1 ++ rs2 ++ [r]) := by
  have := append h1 (Vals.nt r rl [] u2 [] args [] rs2 [] hr h2 Vals.nil)
  simpa only [List.append_nil, List.append_assoc] using this

end Vals

namespace D
variable {V : Type}

/-- the values on the stack, bottom entry excluded, left to right (mirror of `ssyms`) -/
def svals : List (Entry V) → List V
  | [] => []
  | [_] => []
  | e :: f :: st => svals (f :: st) ++ [e.val]

theorem svals_push (e : Entry V) {st : List (Entry V)} (h : st ≠ []) :
    svals (e :: st) = svals st ++ [e.val] := by
  cases st with
  | nil => exact absurd rfl h
  | cons f st => rfl

theorem svals_length : ∀ st : List (Entry V), (svals st).length = (ssyms st).length
  | [] => rfl
  | [_] => rfl
  | e :: f :: st => by
    rw [svals_push e (List.cons_ne_nil f st), ssyms_push e (List.cons_ne_nil f st),
      List.length_append, List.length_append, svals_length (f :: st)]
    rfl

theorem svals_take_drop : ∀ (n : Nat) (st : List (Entry V)), n < st.length →
    svals st = svals (st.drop n) ++ ((st.take n).reverse.map Entry.val)
  | 0, st, _ => by simp
  | n + 1, e :: st, hlen => by
    have hl : n < st.length := Nat.lt_of_succ_lt_succ hlen
    rw [svals_push e (List.ne_nil_of_length_pos (Nat.zero_lt_of_lt hl)), svals_take_drop n st hl]
    simp only [List.drop_succ_cons, List.take_succ_cons, List.reverse_cons, List.map_append,
      List.map_cons, List.map_nil, List.append_assoc]

theorem svals_single {top : Entry V} {below : List (Entry V)} {x : Sym}
    (h : ssyms (top :: below) = [x]) : svals (top :: below) = [top.val] := by
  cases below with
  | nil => cases h
  | cons f st =>
    have hne := List.cons_ne_nil f st
    rw [ssyms_push top hne] at h
    have hz : svals (f :: st) = [] := List.eq_nil_of_length_eq_zero (by
      have := congrArg List.length h
      rw [List.length_append, ← svals_length] at this
      exact Nat.succ.inj this)
    rw [svals_push top hne, hz]
    rfl

/-- `Inv` plus: the stack symbols derive the consumed prefix of the input, the stack values are the
    values of these subtrees, and the reductions so far (oldest first) are their rule sequence -/
structure InvV (G : Grammar) (A : Auto) (sem : Nat → List V → V) (w : List (Sym × V)) (c : Cfg V) :
    Prop where
  inv : Inv G A (w.map Prod.fst) c
  val : ∃ shifted, w = shifted ++ c.rest ∧
      Vals G sem (ssyms c.stack) shifted (svals c.stack) c.reds.reverse

theorem init_invV {G : Grammar} {A : Auto} (sem : Nat → List V → V) (bv : V) (w : List (Sym × V))
    (hw : ∀ t ∈ w, t.1 ≤ G.nT ∧ t.1 ≠ 1) : InvV G A sem w (init bv w) :=
  ⟨init_inv bv w hw, [], rfl, Vals.nil⟩

/-- Slots lemma (stack level): when the top state holds the complete item of rule `r`, the forest on
    the stack splits into the part below the handle and a forest for `rhs` whose values are exactly
    the values of the `|rhs|` topmost entries, oldest first. -/
theorem reduce_vals {G : Grammar} {A : Auto} (hA : AOK G A) {sem : Nat → List V → V}
    {st : List (Entry V)} {r : Nat} {rl : Rule} {shifted : List (Sym × V)} {rs : List Nat}
    (hp : PathOK A st) (hrl : G.rules[r]? = some rl)
    (hit : (⟨r, rl.rhs.length⟩ : Item) ∈ A.its (stTop st))
    (hv : Vals G sem (ssyms st) shifted (svals st) rs) :
    ssyms st = ssyms (st.drop rl.rhs.length) ++ rl.rhs ∧
    svals st = svals (st.drop rl.rhs.length) ++ ((st.take rl.rhs.length).reverse.map Entry.val) ∧
    ∃ u1 u2 rs1 rs2, shifted = u1 ++ u2 ∧ rs = rs1 ++ rs2 ∧
      Vals G sem (ssyms (st.drop rl.rhs.length)) u1 (svals (st.drop rl.rhs.length)) rs1 ∧
      Vals G sem rl.rhs u2 ((st.take rl.rhs.length).reverse.map Entry.val) rs2 := by
  obtain ⟨hlen, hsy, _, _⟩ := handle_rhs hA hp hrl hit
  have hsv := svals_take_drop rl.rhs.length st hlen
  refine ⟨hsy, hsv, ?_⟩
  rw [hsy] at hv
  obtain ⟨u1, u2, vs1, vs2, rs1, rs2, hu, hvs, hrs, h1, h2⟩ := Vals.split _ _ _ _ _ hv
  have hl2 : vs2.length = ((st.take rl.rhs.length).reverse.map Entry.val).length := by
    rw [h2.length_eq, List.length_map, List.length_reverse, List.length_take]
    omega
  rw [hsv] at hvs
  obtain ⟨e1, e2⟩ := List.append_inj' hvs hl2.symm
  rw [← e1] at h1
  rw [← e2] at h2
  exact ⟨u1, u2, rs1, rs2, hu, hrs, h1, h2⟩

theorem InvV.next {G : Grammar} {A : Auto} {w : List (Sym × V)} {sem : Nat → List V → V} {ev : V}
    (hA : AOK G A) {c c' : Cfg V} (h : InvV G A sem w c) (hs : AMove G A sem ev c (.next c')) :
    InvV G A sem w c' := by
  refine ⟨h.inv.next hA hs, ?_⟩
  obtain ⟨shifted, hw, hv⟩ := h.val
  have hpath := h.inv.path
  cases hs with
  | @shift x xs p hrest hx hg =>
    refine ⟨shifted ++ [x], by rw [hw, hrest, List.append_assoc]; rfl, ?_⟩
    show Vals G sem (ssyms (_ :: c.stack)) _ (svals (_ :: c.stack)) _
    rw [ssyms_push _ hpath.ne_nil, svals_push _ hpath.ne_nil]
    exact hv.snoc_tm x hx
  | @reduce r rl p hr0 hrl hnt hit hn hg =>
    obtain ⟨_, _, u1, u2, rs1, rs2, hu, hrs, h1, h2⟩ := reduce_vals hA hpath hrl hit hv
    have hne : c.stack.drop rl.rhs.length ≠ [] := mt List.drop_eq_nil_iff.mp (Nat.not_le.mpr hn)
    refine ⟨shifted, hw, ?_⟩
    show Vals G sem (ssyms (_ :: c.stack.drop _)) _ (svals (_ :: c.stack.drop _)) (r :: c.reds).reverse
    rw [ssyms_push _ hne, svals_push _ hne, List.reverse_cons, hrs, hu]
    exact Vals.snoc_nt hrl h1 h2

theorem reach_invV {G : Grammar} {nS : Nat} {A : Auto} {T : Dense} {w : List (Sym × V)}
    (sem : Nat → List V → V) (eofVal : V)
    (hG : GOK G nS) (hA : AOK G A) (hT : TOK G nS A T) {c c' : Cfg V} (h : InvV G A sem w c)
    (hr : Reach (dparams G T A.n sem eofVal) c c') : InvV G A sem w c' :=
  hr.inv (fun _ _ hi hs => hi.next hA (hs ▸ step_amove sem eofVal hG hA hT hi.inv)) h

end D
end Y
