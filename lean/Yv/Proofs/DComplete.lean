import Yv.Cert.CompleteX
import Yv.Model.Drive
import Yv.Proofs.CertFacts
import Yv.Proofs.DSound
/-! C02 (completeness) for the concrete driver on a certified dense table.

    1. `CompleteX` / `simX`: the completeness simulation of `Yv.Abs.Complete`, with the `reduce`
       clause restricted to user rules (the table holds *accept*, not *reduce 0*, on the completed
       start item) — sound because no right-hand side mentions the left-hand side of rule 0.
    2. `complete_of_certs`: the Bool certificates give `CompleteX G (absTab G A T) (ItOf A la)`.
    3. `sim_step` / `sim_steps`: the concrete driver follows the abstract machine on `absTab`.
    4. `complete_run`: every sentence is accepted. -/
namespace Y

/-- `Complete` with the reduce clause for user rules only -/
structure CompleteX (G : Grammar) (T : Tab) (It : Nat → Nat → Nat → Sym → Prop) : Prop where
  closure : ∀ (q r d : Nat) (b : Sym) (rl : Rule) (a : Sym) (r' : Nat) (rl' : Rule), It q r d b → G.rules[r]? = some rl →
      G.rules[r']? = some rl' → rl.rhs[d]? = some rl'.lhs →
      FirstOf G (rl.rhs.drop (d+1) ++ [b]) a → It q r' 0 a
  shift : ∀ (q r d : Nat) (b : Sym) (rl : Rule) (t : Sym), It q r d b → G.rules[r]? = some rl → rl.rhs[d]? = some t →
      G.isT t = true → ∃ p, T.act q t = .shift p ∧ It p r (d+1) b
  goto : ∀ (q r d : Nat) (b : Sym) (rl : Rule) (B : Sym), It q r d b → G.rules[r]? = some rl → rl.rhs[d]? = some B →
      G.isT B = false → ∃ p, T.goto q B = some p ∧ It p r (d+1) b
  reduce : ∀ (q r : Nat) (a : Sym) (rl : Rule), r ≠ 0 → G.rules[r]? = some rl → It q r rl.rhs.length a →
      T.act q a = .reduce r
  lookT : ∀ (q r d : Nat) (b : Sym), It q r d b → G.isT b = true

theorem simX (G : Grammar) (T : Tab) (It) (hG : GWFX G) (hC : CompleteX G T It) :
    ∀ (γ w : List Sym), GenL G γ w →
    ∀ (c : Cfg) (r k : Nat) (a : Sym) (rl : Rule) (v : List Sym),
    It (top c) r k a → G.rules[r]? = some rl → k ≤ rl.rhs.length → rl.rhs.drop k = γ →
    c.rest = w ++ a :: v →
    ∃ n c', steps G T n c = some c' ∧
      (∃ ext : List (Nat × Sym), c'.stack = ext ++ c.stack ∧ ext.length = γ.length) ∧
      c'.rest = a :: v ∧ It (top c') r rl.rhs.length a :=
  sim_on G T It (· ≠ 0) hG.lhsNT hG.noStart hC.closure hC.shift hC.goto hC.reduce hC.lookT

theorem step_shift_eq (G : Grammar) (T : Tab) (c : Cfg) (a : Sym) (v : List Sym) (p : Nat)
    (hrest : c.rest = a :: v) (hact : T.act (top c) a = .shift p) :
    step G T c = .next { c with stack := (p, a) :: c.stack, rest := v } := by
  simp [step, hrest, hact]

theorem step_reduce_inv (G : Grammar) (T : Tab) (c c' : Cfg) (a : Sym) (v : List Sym) (r : Nat)
    (hrest : c.rest = a :: v) (hact : T.act (top c) a = .reduce r) (hs : step G T c = .next c') :
    ∃ rl p, G.rules[r]? = some rl ∧ rl.rhs.length ≤ c.stack.length ∧
      T.goto (topOf (c.stack.drop rl.rhs.length)) rl.lhs = some p ∧
      c' = { c with stack := (p, rl.lhs) :: c.stack.drop rl.rhs.length, reds := r :: c.reds } := by
  unfold step at hs
  rw [hrest] at hs
  simp only [hact] at hs
  split at hs
  · cases hs
  · rename_i rl hrl
    split at hs
    · rename_i hlen
      split at hs
      · cases hs
      · rename_i p hg
        cases hs
        exact ⟨rl, p, hrl, hlen, hg, by rw [hrest]⟩
    · cases hs

/-! ## From the Bool certificates to `CompleteX` -/

/-- the lookahead-annotated items of the data: `⟨r,d⟩` is an item of state `q` and `b` is one of its
    stored lookaheads -/
def ItOf (A : Auto) (la : LATab) (q r d : Nat) (b : Sym) : Prop :=
  q < A.n ∧ (⟨r, d⟩ : Item) ∈ A.its q ∧ b ∈ la.get q ⟨r, d⟩

theorem gwf_of_gok {G : Grammar} {nS : Nat} (h : GOK G nS) : GWF G := ⟨(gwfx_of_gok h).lhsNT⟩

theorem actOf_shift {n p : Nat} (hp : p < n) (h0 : p ≠ 0) : actOf n (some (p : Int)) = .shift p := by
  have h1 : (p : Int) ≠ errCode n := by unfold errCode; omega
  have h2 : (p : Int) ≠ accCode n := by unfold accCode; omega
  simp [actOf, h1, h2, h0]

theorem actOf_reduce {n r : Nat} : actOf n (some (-(r : Int))) = .reduce r := by
  have h1 : -(r : Int) ≠ errCode n := by unfold errCode; omega
  have h2 : -(r : Int) ≠ accCode n := by unfold accCode; omega
  simp [actOf, h1, h2]

theorem actOf_acc (n : Nat) : actOf n (some (accCode n)) = .accept := by
  have h1 : accCode n ≠ errCode n := by unfold errCode accCode; omega
  simp [actOf, h1]

theorem gotoOf_nat {n p : Nat} (hp : p < n) : gotoOf n (some (p : Int)) = some p := by
  have h1 : (p : Int) ≠ errCode n := by unfold errCode; omega
  simp [gotoOf, h1]

theorem gotoOf_inv {n : Nat} {x : Option Int} {p : Nat} (h : gotoOf n x = some p) :
    ∃ g, x = some g ∧ ¬ g < 0 ∧ p = g.toNat := by
  cases x with
  | none => simp [gotoOf] at h
  | some g =>
    unfold gotoOf at h
    by_cases h1 : g = errCode n
    · simp [h1] at h
    · by_cases h2 : g < 0
      · simp [h1, h2] at h
      · simp [h1, h2] at h
        exact ⟨g, rfl, h2, h.symm⟩

theorem laTerm_ok {G : Grammar} {A : Auto} {la : LATab} (h : laTerm G A la = true)
    {q : Nat} (hq : q < A.n) {it : Item} (hit : it ∈ A.its q) {b : Sym} (hb : b ∈ la.get q it) :
    G.isT b = true := by
  unfold laTerm at h
  exact List.all_eq_true.mp (List.all_eq_true.mp (all_range h q hq) it hit) b hb

theorem certC_ok {G : Grammar} {A : Auto} {la : LATab} {T : Dense} (h : certC G A la T = true)
    {q : Nat} (hq : q < A.n) {it : Item} (hit : it ∈ A.its q) :
    ((G.rhsOf it.r)[it.d]? = none → ∀ a ∈ la.get q it,
        cell T q a = some (if it.r = 0 then accCode A.n else -(it.r : Int))) ∧
    (∀ X, (G.rhsOf it.r)[it.d]? = some X → G.isT X = true →
        ∃ p, A.goto q X = some p ∧ cell T q X = some (p : Int)) := by
  unfold certC at h
  have h1 := List.all_eq_true.mp (all_range h q hq) it hit
  refine ⟨fun hn a ha => ?_, fun X hX hT => ?_⟩
  · simp only [hn, List.all_eq_true, beq_iff_eq] at h1
    exact h1 a ha
  · simp only [hX, hT, if_true] at h1
    cases hg : A.goto q X with
    | none => simp [hg] at h1
    | some p =>
      simp only [hg, beq_iff_eq] at h1
      exact ⟨p, rfl, h1⟩

theorem complete_of_certs {G : Grammar} {nS : Nat} {A : Auto} {T : Dense} {S : Sets} {la : LATab}
    (hA : AOK G A) (hT : TOK G nS A T)
    (hS : setsClosed G S = true) (hL : laClosed G S (toLAData A la) = true)
    (hC : certC G A la T = true) (hLT : laTerm G A la = true) :
    CompleteX G (absTab G A T) (ItOf A la) := by
  -- an item with `X` after the dot, advanced over the edge on `X`
  have adv : ∀ {q r d b rl X p}, ItOf A la q r d b → G.rules[r]? = some rl → rl.rhs[d]? = some X →
      A.goto q X = some p → p < A.n ∧ p ≠ 0 ∧ ItOf A la p r (d+1) b := by
    intro q r d b rl X p ⟨hq, hit, hb⟩ hr hx hg
    obtain ⟨hp, hp0, _⟩ := hA.edge q hq X p hg
    have := (laClosed_item (D := toLAData A la) hL hq hit (it := ⟨r, d⟩) hr hx).1 p hg
    exact ⟨hp, hp0, hp, this.2.1, this.2.2 b hb⟩
  refine ⟨?_, ?_, ?_, ?_, fun q r d b ⟨hq, hit, hb⟩ => laTerm_ok hLT hq hit hb⟩
  · intro q r d b rl a r' rl' ⟨hq, hit, hb⟩ hr hr' hx hF
    have := (laClosed_item (D := toLAData A la) hL hq hit (it := ⟨r, d⟩) hr hx).2 r' rl' hr' rfl
    exact ⟨hq, this.1, this.2 b hb a (firstOf_sets G S hS _ a hF)⟩
  · intro q r d b rl t hI hr hx ht
    obtain ⟨p, hg, hcell⟩ := (certC_ok hC hI.1 hI.2.1).2 t (rhsOf_get.mpr ⟨rl, hr, hx⟩) ht
    obtain ⟨hp, hp0, hI'⟩ := adv hI hr hx hg
    exact ⟨p, by show actOf A.n (cell T q t) = _; rw [hcell]; exact actOf_shift hp hp0, hI'⟩
  · intro q r d b rl B hI hr hx hB
    obtain ⟨p, hg, _⟩ := hA.gotoC q hI.1 _ hI.2.1 B (rhsOf_get.mpr ⟨rl, hr, hx⟩)
    obtain ⟨hp, _, hI'⟩ := adv hI hr hx hg
    exact ⟨p, by show gotoOf A.n (cell T q B) = _; rw [hT.ntEdge q hI.1 B p hg hB]; exact gotoOf_nat hp,
      hI'⟩
  · intro q r a rl hr0 hr ⟨hq, hit, ha⟩
    have hn : (G.rhsOf r)[rl.rhs.length]? = none := by rw [rhsOf_of_get hr]; simp
    have hcell := (certC_ok hC hq hit).1 hn a ha
    simp only [hr0, if_false] at hcell
    show actOf A.n (cell T q a) = .reduce r
    rw [hcell]; exact actOf_reduce

end Y

/-! ## The concrete driver follows the abstract machine on `absTab` -/
namespace Y.D
open Y
variable {V : Type}

def pr (e : Entry V) : Nat × Sym := (e.st, e.sym)

/-- a concrete stack (bottom entry with state 0 included) abstracts to the pairs above the bottom -/
def AbsStk (st : List (Entry V)) (as : List (Nat × Sym)) : Prop :=
  ∃ ents bot, st = ents ++ [bot] ∧ bot.st = 0 ∧ as = ents.map pr

theorem AbsStk.top {st : List (Entry V)} {as : List (Nat × Sym)} (h : AbsStk st as) :
    stTop st = topOf as := by
  obtain ⟨ents, bot, rfl, hb, rfl⟩ := h
  cases ents with
  | nil => simp [stTop, topOf, hb]
  | cons e es => simp [stTop, topOf, pr]

theorem AbsStk.push {st : List (Entry V)} {as : List (Nat × Sym)} (h : AbsStk st as) (e : Entry V) :
    AbsStk (e :: st) ((e.st, e.sym) :: as) := by
  obtain ⟨ents, bot, rfl, hb, rfl⟩ := h
  exact ⟨e :: ents, bot, rfl, hb, rfl⟩

theorem AbsStk.length {st : List (Entry V)} {as : List (Nat × Sym)} (h : AbsStk st as) :
    st.length = as.length + 1 := by
  obtain ⟨ents, bot, rfl, hb, rfl⟩ := h
  simp

theorem AbsStk.drop {st : List (Entry V)} {as : List (Nat × Sym)} (h : AbsStk st as) (n : Nat)
    (hn : n ≤ as.length) : AbsStk (st.drop n) (as.drop n) := by
  obtain ⟨ents, bot, rfl, hb, rfl⟩ := h
  refine ⟨ents.drop n, bot, ?_, hb, by simp [List.map_drop]⟩
  rw [List.drop_append_of_le_length (by simpa using hn)]

theorem AbsStk.ne_nil {st : List (Entry V)} {as : List (Nat × Sym)} (h : AbsStk st as) : st ≠ [] :=
  List.ne_nil_of_length_pos (h.length ▸ Nat.succ_pos _)

/-- abstraction of a concrete configuration: same states and symbols above the bottom entry, the
    remaining symbols followed by the end marker, the same reductions -/
structure Abs (cc : Cfg V) (c : Y.Cfg) : Prop where
  stk : AbsStk cc.stack c.stack
  rest : c.rest = cc.rest.map Prod.fst ++ [1]
  reds : c.reds = cc.reds

theorem look_abs {ev : V} {cc : Cfg V} {rest : List Sym} {a : Sym} {v : List Sym}
    (h : rest = cc.rest.map Prod.fst ++ [1]) (hr : rest = a :: v) :
    (look ev cc).1 = a ∧ (a ≠ 1 → v = cc.rest.tail.map Prod.fst ++ [1]) := by
  rw [hr] at h
  rw [look_fst]
  cases hm : cc.rest.map Prod.fst with
  | nil => rw [hm] at h; cases h; exact ⟨rfl, fun hne => absurd rfl hne⟩
  | cons x xs => rw [hm] at h; cases h; exact ⟨rfl, fun _ => by rw [List.map_tail, hm]; rfl⟩

theorem sim_step {G : Grammar} {nS : Nat} {A : Auto} {T : Dense} (sem : Nat → List V → V) (eofVal : V)
    (hT : TOK G nS A T) {cc : Cfg V} {c c' : Y.Cfg}
    (ha : Abs cc c) (hs : Y.step G (absTab G A T) c = .next c') :
    ∃ cc', step (dparams G T A.n sem eofVal) cc = .next cc' ∧ Abs cc' c' := by
  obtain ⟨hstk, hrest, hreds⟩ := ha
  cases hr : c.rest with
  | nil => simp [Y.step, hr] at hs
  | cons a v =>
  obtain ⟨hlook, htail⟩ := look_abs (ev := eofVal) hrest hr
  cases hcell : cell T (Y.top c) a with
  | none =>
    have hact : (absTab G A T).act (Y.top c) a = .error := by simp [absTab, actOf, hcell]
    simp [Y.step, hr, hact] at hs
  | some x =>
  have hL : (dparams G T A.n sem eofVal).L (stTop cc.stack) (look (dparams G T A.n sem eofVal).eofVal cc).1
      = some x := by
    show cell T (stTop cc.stack) (look eofVal cc).1 = some x
    rw [hstk.top, hlook]; exact hcell
  by_cases he : x = errCode A.n
  · have hact : (absTab G A T).act (Y.top c) a = .error := by simp [absTab, actOf, hcell, he]
    simp [Y.step, hr, hact] at hs
  by_cases hacc : x = accCode A.n
  · have hact : (absTab G A T).act (Y.top c) a = .accept := by
      subst hacc; simp [absTab, actOf, hcell, he]
    simp [Y.step, hr, hact] at hs
  by_cases hpos : 0 < x
  · have hact : (absTab G A T).act (Y.top c) a = .shift x.toNat := by
      simp [absTab, actOf, hcell, he, hacc, hpos]
    rw [step_shift_eq G _ c a v _ hr hact] at hs
    cases hs
    refine ⟨_, (Move.shift hstk.ne_nil hL he hacc hpos).step_eq, ?_, htail (hT.shift _ _ _ hcell he hacc hpos).1,
      hreds⟩
    exact hlook ▸ hstk.push ⟨x.toNat, (look eofVal cc).1, (look eofVal cc).2⟩
  · have hact : (absTab G A T).act (Y.top c) a = .reduce (-x).toNat := by
      simp [absTab, actOf, hcell, he, hacc, hpos]
    obtain ⟨rl, p, hrl, hlen, hgoto, rfl⟩ := step_reduce_inv G _ c c' a v _ hr hact hs
    have hrne : (-x).toNat ≠ 0 := Nat.ne_of_gt (hT.red _ _ _ hcell he hacc hpos).1
    have hrule : (dparams G T A.n sem eofVal).rule (-x).toNat = some (rl.lhs, rl.rhs.length) := by
      simp only [dparams, hrne, hrl, if_false, Option.map_some]
    have hd := hstk.drop rl.rhs.length hlen
    obtain ⟨g, hg, hg0, rfl⟩ := gotoOf_inv (show gotoOf A.n (cell T _ rl.lhs) = some p from hgoto)
    rw [← hd.top] at hg
    exact ⟨_, (Move.reduce hL he hacc hpos hrule (hstk.length ▸ Nat.lt_succ_of_le hlen) hg hg0).step_eq,
      hd.push _, hrest, congrArg _ hreds⟩

/-- abstract accept ↦ concrete `.acc`: in a configuration whose abstract lookahead cell holds the
    accept code the concrete driver accepts -/
theorem acc_step {G : Grammar} {A : Auto} {T : Dense} (sem : Nat → List V → V) (eofVal : V)
    {cc : Cfg V} {c : Y.Cfg} {a : Sym} {v : List Sym} (ha : Abs cc c) (hr : c.rest = a :: v)
    (hcell : cell T (Y.top c) a = some (accCode A.n)) :
    ∃ val, step (dparams G T A.n sem eofVal) cc = .acc val cc := by
  obtain ⟨hstk, hrest, _⟩ := ha
  obtain ⟨hlook, _⟩ := look_abs (ev := eofVal) hrest hr
  obtain ⟨top, below, hst⟩ := List.exists_cons_of_ne_nil hstk.ne_nil
  refine ⟨top.val, (Move.acc hst ?_ (acc_ne_err A.n)).step_eq⟩
  show cell T (stTop (top :: below)) (look eofVal cc).1 = some (accCode A.n)
  rw [← hst, hstk.top, hlook]; exact hcell

theorem sim_steps {G : Grammar} {nS : Nat} {A : Auto} {T : Dense} (sem : Nat → List V → V) (eofVal : V)
    (hT : TOK G nS A T) :
    ∀ (n : Nat) (c c' : Y.Cfg) (cc : Cfg V), Abs cc c → steps G (absTab G A T) n c = some c' →
      ∃ cc', Abs cc' c' ∧ Reach (dparams G T A.n sem eofVal) cc cc'
  | 0, c, c', cc, ha, hs => by cases hs; exact ⟨cc, ha, .refl _⟩
  | k + 1, c, c', cc, ha, hs => by
    unfold steps at hs
    split at hs
    · rename_i c1 hs1
      obtain ⟨cc1, hstep, ha1⟩ := sim_step sem eofVal hT ha hs1
      obtain ⟨cc', ha', hreach⟩ := sim_steps sem eofVal hT k c1 c' cc1 ha1 hs
      exact ⟨cc', ha', hreach.head hstep⟩
    · cases hs

theorem init_abs (bv : V) (w : List (Sym × V)) :
    Abs (init bv w) { stack := [], rest := w.map Prod.fst ++ [1], reds := [] } :=
  ⟨⟨[], ⟨0, 1, bv⟩, rfl, rfl, rfl⟩, rfl, rfl⟩

/-- C02 on Prop-level certificate facts: every sentence (a terminal string derived from the body of
    rule 0) is accepted by the concrete driver -/
theorem complete_run {G : Grammar} {nS : Nat} {A : Auto} {T : Dense} {S : Sets} {la : LATab}
    (sem : Nat → List V → V) (eofVal bv : V)
    (hG : GOK G nS) (hA : AOK G A) (hT : TOK G nS A T)
    (hS : setsClosed G S = true) (hL : laClosed G S (toLAData A la) = true)
    (hC : certC G A la T = true) (hLT : laTerm G A la = true)
    (w : List (Sym × V)) (rl0 : Rule) (h0 : G.rules[0]? = some rl0)
    (hw : GenL G rl0.rhs (w.map Prod.fst)) :
    ∃ fuel v c', run (dparams G T A.n sem eofVal) fuel (init bv w) = .accept v c' := by
  have hCX := complete_of_certs hA hT hS hL hC hLT
  let c0 : Y.Cfg := { stack := [], rest := w.map Prod.fst ++ [1], reds := [] }
  have hit0 : ItOf A la (Y.top c0) 0 0 1 :=
    LA_in_table G S (toLAData A la) hS hL hA.npos 0 ⟨0, 0⟩ 1 .init
  obtain ⟨n, c', hsteps, _, hrest', hq, hit, hla⟩ :=
    simX G (absTab G A T) (ItOf A la) (gwfx_of_gok hG) hCX rl0.rhs (w.map Prod.fst) hw
      c0 0 0 1 rl0 [] hit0 h0 (Nat.zero_le _) rfl rfl
  have hn : (G.rhsOf 0)[rl0.rhs.length]? = none := by rw [rhsOf_of_get h0]; simp
  have hcell : cell T (Y.top c') 1 = some (accCode A.n) := (certC_ok hC hq hit).1 hn 1 hla
  obtain ⟨cc', ha', hreach⟩ := sim_steps sem eofVal hT n c0 c' (init bv w) (init_abs bv w) hsteps
  obtain ⟨val, hacc⟩ := acc_step (G := G) sem eofVal ha' hrest' hcell
  obtain ⟨k, hk⟩ := hreach.run
  exact ⟨k + 1, val, cc', by rw [hk 1, run, hacc]⟩

end Y.D
