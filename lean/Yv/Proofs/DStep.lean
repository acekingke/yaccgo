import Yv.Model.Drive
/-! The driver's step function `Y.D.step` characterised once, for any parameters: `Move P c r` lists
    the four non-crashing moves, each with the table facts that select it (`step_spec`, `Move.step_eq`).
    Reachability by `next` steps (`Reach`) and what a halted run has reached (`run_end`). -/
namespace Y.D
variable {V : Type}

def stTop (st : List (Entry V)) : Nat := match st with | [] => 0 | e :: _ => e.st

theorem look_nil {ev : V} {c : Cfg V} (h : c.rest = []) : look ev c = (1, ev) := by
  simp [look, h]

theorem look_cons {ev : V} {c : Cfg V} {x : Sym × V} {xs : List (Sym × V)}
    (h : c.rest = x :: xs) : look ev c = x := by
  simp [look, h]

theorem look_fst (ev : V) (c : Cfg V) : (look ev c).1 = (c.rest.map Prod.fst).headD 1 := by
  unfold look; cases c.rest <;> rfl

/-- What `step P c` is when it is not `crash`.  The stack after a move is written over `c.stack`
    (`drop`/`take` for a reduction), the states read are `stTop` of it. -/
inductive Move (P : Params V) (c : Cfg V) : StepR V → Prop
  | err (hne : c.stack ≠ []) (hL : P.L (stTop c.stack) (look P.eofVal c).1 = some P.errC) :
      Move P c (.err c)
  | acc {top : Entry V} {below : List (Entry V)} (hst : c.stack = top :: below)
      (hL : P.L top.st (look P.eofVal c).1 = some P.accC) (hne : P.accC ≠ P.errC) :
      Move P c (.acc top.val c)
  | shift {a : Int} (hne : c.stack ≠ []) (hL : P.L (stTop c.stack) (look P.eofVal c).1 = some a)
      (he : a ≠ P.errC) (hacc : a ≠ P.accC) (hpos : 0 < a) :
      Move P c (.next { c with
        stack := ⟨a.toNat, (look P.eofVal c).1, (look P.eofVal c).2⟩ :: c.stack,
        rest := c.rest.tail,
        req := c.req + 1,
        trace := .shift (look P.eofVal c).1 a.toNat :: c.trace })
  | reduce {a g : Int} {lhs n : Nat} (hL : P.L (stTop c.stack) (look P.eofVal c).1 = some a)
      (he : a ≠ P.errC) (hacc : a ≠ P.accC) (hpos : ¬ 0 < a)
      (hr : P.rule (-a).toNat = some (lhs, n)) (hn : n < c.stack.length)
      (hg : P.L (stTop (c.stack.drop n)) lhs = some g) (hg0 : ¬ g < 0) :
      Move P c (.next { c with
        stack := ⟨g.toNat, lhs, P.sem (-a).toNat ((c.stack.take n).reverse.map Entry.val)⟩ ::
                 c.stack.drop n,
        reds := (-a).toNat :: c.reds,
        trace := .shift lhs g.toNat :: .reduce (look P.eofVal c).1 (-a).toNat g.toNat :: c.trace })

theorem Move.step_eq {P : Params V} {c : Cfg V} {r : StepR V} (h : Move P c r) : step P c = r := by
  cases h with
  | err hne hL =>
    cases hst : c.stack with
    | nil => exact absurd hst hne
    | cons top below =>
      rw [hst] at hL
      simp only [step, hst, show P.L top.st _ = _ from hL, if_true]
  | acc hst hL hne => simp only [step, hst, hL, hne, if_false, if_true]
  | shift hne hL he hacc hpos =>
    cases hst : c.stack with
    | nil => exact absurd hst hne
    | cons top below =>
      rw [hst] at hL
      simp only [step, hst, show P.L top.st _ = _ from hL, he, hacc, hpos, if_false, if_true]
  | @reduce a g lhs n hL he hacc hpos hr hn hg hg0 =>
    cases hst : c.stack with
    | nil => rw [hst] at hn; exact absurd hn (Nat.not_lt_zero _)
    | cons top below =>
      rw [hst] at hL hn hg
      have hnb : n ≤ below.length := Nat.le_of_lt_succ hn
      cases hd : (top :: below).drop n with
      | nil =>
        have := congrArg List.length hd
        simp only [List.length_drop, List.length_cons, List.length_nil] at this
        omega
      | cons under rest' =>
        rw [hd] at hg
        simp only [step, hst, show P.L top.st _ = _ from hL, he, hacc, hpos, hr, hnb, hd,
          show P.L under.st _ = _ from hg, hg0, if_false, if_true]

theorem step_spec (P : Params V) (c : Cfg V) : step P c = .crash ∨ Move P c (step P c) := by
  -- by cases on what `step` reads, each leaf a `Move` or a `crash` computed by `simp`; `split` on
  -- the unfolded `step` reaches the same leaves but is much dearer to check
  have mv : ∀ {r}, Move P c r → step P c = .crash ∨ Move P c (step P c) :=
    fun h => .inr (h.step_eq ▸ h)
  cases hst : c.stack with
  | nil => exact .inl (by simp only [step, hst])
  | cons top below =>
  have hne : c.stack ≠ [] := by rw [hst]; exact List.cons_ne_nil _ _
  cases hL : P.L top.st (look P.eofVal c).1 with
  | none => exact .inl (by simp only [step, hst, hL])
  | some a =>
  have hL' : P.L (stTop c.stack) (look P.eofVal c).1 = some a := by rw [hst]; exact hL
  by_cases he : a = P.errC
  · exact mv (.err hne (he ▸ hL'))
  by_cases hacc : a = P.accC
  · exact mv (.acc hst (hacc ▸ hL) (hacc ▸ he))
  by_cases hpos : 0 < a
  · exact mv (.shift hne hL' he hacc hpos)
  cases hr : P.rule (-a).toNat with
  | none => exact .inl (by simp only [step, hst, hL, he, hacc, hpos, hr, if_false])
  | some ln =>
  obtain ⟨lhs, n⟩ := ln
  by_cases hn : n ≤ below.length
  · cases hd : (top :: below).drop n with
    | nil => exact .inl (by simp only [step, hst, hL, he, hacc, hpos, hr, hn, hd, if_false, if_true])
    | cons under rest' =>
      cases hg : P.L under.st lhs with
      | none =>
        exact .inl (by simp only [step, hst, hL, he, hacc, hpos, hr, hn, hd, hg, if_false, if_true])
      | some g =>
        by_cases hg0 : g < 0
        · exact .inl (by
            simp only [step, hst, hL, he, hacc, hpos, hr, hn, hd, hg, hg0, if_false, if_true])
        · exact mv (.reduce hL' he hacc hpos hr (by rw [hst]; exact Nat.lt_succ_of_le hn)
            (by rw [hst, hd]; exact hg) hg0)
  · exact .inl (by simp only [step, hst, hL, he, hacc, hpos, hr, hn, if_false])

theorem step_move {P : Params V} {c : Cfg V} {r : StepR V} (h : step P c = r) (hr : r ≠ .crash) :
    Move P c r := by
  rcases step_spec P c with hc | hm
  · exact absurd (h ▸ hc) hr
  · exact h ▸ hm

inductive Reach (P : Params V) : Cfg V → Cfg V → Prop
  | refl (c : Cfg V) : Reach P c c
  | tail (c c1 c2 : Cfg V) : Reach P c c1 → step P c1 = .next c2 → Reach P c c2

theorem Reach.trans {P : Params V} {c c1 c2 : Cfg V} (h1 : Reach P c c1) (h2 : Reach P c1 c2) :
    Reach P c c2 := by
  induction h2 with
  | refl => exact h1
  | tail c2 c3 _ hs ih => exact Reach.tail _ _ _ ih hs

theorem Reach.head {P : Params V} {c c1 c2 : Cfg V} (hs : step P c = .next c1)
    (h : Reach P c1 c2) : Reach P c c2 :=
  (Reach.tail _ _ _ (Reach.refl _) hs).trans h

theorem Reach.inv {P : Params V} {I : Cfg V → Prop}
    (hI : ∀ c c', I c → step P c = .next c' → I c') {c c' : Cfg V} (h : I c) (hr : Reach P c c') :
    I c' := by
  induction hr with
  | refl => exact h
  | tail c1 c2 _ hs ih => exact hI c1 c2 ih hs

theorem run_end (P : Params V) : ∀ (fuel : Nat) (c : Cfg V),
    (∀ v c', run P fuel c = .accept v c' → Reach P c c' ∧ step P c' = .acc v c') ∧
    (∀ c', run P fuel c = .syntaxError c' → Reach P c c' ∧ step P c' = .err c') ∧
    (run P fuel c = .crash → ∃ c', Reach P c c' ∧ step P c' = .crash)
  | 0, _ => ⟨nofun, nofun, nofun⟩
  | fuel + 1, c => by
    unfold run
    cases hs : step P c with
    | next c1 =>
      obtain ⟨h1, h2, h3⟩ := run_end P fuel c1
      exact ⟨fun v c' h => (h1 v c' h).imp (Reach.head hs) id,
        fun c' h => (h2 c' h).imp (Reach.head hs) id,
        fun h => (h3 h).imp fun _ hc => hc.imp (Reach.head hs) id⟩
    | acc v c1 =>
      cases step_move hs (by simp) with
      | acc hst hL hne => exact ⟨fun _ _ h => by cases h; exact ⟨.refl _, hs⟩, nofun, nofun⟩
    | err c1 =>
      cases step_move hs (by simp) with
      | err hne hL => exact ⟨nofun, fun _ h => by cases h; exact ⟨.refl _, hs⟩, nofun⟩
    | crash => exact ⟨nofun, nofun, fun _ => ⟨c, .refl _, hs⟩⟩

theorem Reach.run {P : Params V} {c c' : Cfg V} (h : Reach P c c') :
    ∃ k, ∀ fuel, run P (k + fuel) c = run P fuel c' := by
  induction h with
  | refl => exact ⟨0, fun fuel => by rw [Nat.zero_add]⟩
  | tail c1 c2 _ hs ih =>
    obtain ⟨k, hk⟩ := ih
    refine ⟨k + 1, fun fuel => ?_⟩
    rw [Nat.add_assoc, Nat.add_comm 1 fuel, hk, D.run, hs]

end Y.D
