import Yv.Model.GenTab
import Yv.Gen.Resolve
/-! The pairwise resolution `Core.pairWinner` used to instantiate the table generator IS the Go text:
    `ResolveConflict`, and `UseDefaultResolveConflict` when it fails, as translated mechanically from
    LALR/Table.go into `Yv/Gen/Resolve.lean` (the loop body of `CheckAndResolveConflict`). -/
namespace Y.GT
open Core (Action)

def toGen (a : Action) : Gen.Action := ⟨a.ty, a.idx, a.precTy, a.prec⟩
def ofGen (a : Gen.Action) : Action := ⟨a.actionType, a.actionIndex, a.precType, a.prec⟩

/-- the body of `CheckAndResolveConflict`'s loop, on the functions translated from Table.go -/
def goWinner (a b : Gen.Action) : Gen.Action :=
  match Gen.resolveConflict a b with
  | .ok x => x
  | .error _ => Gen.useDefaultResolveConflict a b

def exOpt (e : Except Unit Gen.Action) : Option Action :=
  match e with
  | .ok x => some (ofGen x)
  | .error _ => none

/-- shape-independent: both sides are unfolded and the case analysis is left to `grind`, so an
    equivalent rewrite of the Go text (other nesting, `switch`, swapped comparisons) re-proves -/
theorem rc_eq_go (a b : Action) :
    Core.resolveConflict a b = exOpt (Gen.resolveConflict (toGen a) (toGen b)) := by
  obtain ⟨t1, i1, pt1, p1⟩ := a
  obtain ⟨t2, i2, pt2, p2⟩ := b
  unfold Core.resolveConflict Gen.resolveConflict toGen exOpt ofGen
  grind

theorem ud_eq_go (a b : Action) :
    Core.useDefault a b = ofGen (Gen.useDefaultResolveConflict (toGen a) (toGen b)) := by
  obtain ⟨t1, i1, pt1, p1⟩ := a
  obtain ⟨t2, i2, pt2, p2⟩ := b
  unfold Core.useDefault Gen.useDefaultResolveConflict toGen ofGen
  grind

/-- the resolution used by the model is the translated Go text -/
theorem pairWinner_eq_go (a b : Action) :
    Core.pairWinner a b = ofGen (goWinner (toGen a) (toGen b)) := by
  unfold Core.pairWinner goWinner
  rw [rc_eq_go, ud_eq_go]
  cases Gen.resolveConflict (toGen a) (toGen b) <;> rfl

/-- the translated Go resolution, on the model's action type -/
def goRes (a b : Action) : Action := ofGen (goWinner (toGen a) (toGen b))

theorem pairWinner_eq_goRes : Core.pairWinner = goRes := by
  funext a b; exact pairWinner_eq_go a b

end Y.GT
