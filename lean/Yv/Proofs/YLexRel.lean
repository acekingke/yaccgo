import Yv.Model.YLex
/-! The state functions of the lexer reach into a state only through `rest`, `pend`, `adv`, `skipWhile` and
    `ignore`.  Hence they respect every relation between states that these respect (`StRel`): from related
    states they produce the same kinds and values, related states and the same flag (`ResRel`).
    Two instances are used.  Totality (`sfx_rel` in `YLexTotal`) takes the diagonal relation
    `a = b ∧ Sfx s0 a`: a unary invariant ("what is left is a suffix of what was there") carried through
    the binary relation.  Offset independence (`stEq_rel` in `YLexLayout`) takes `StEq`: states that differ only
    in their offset. -/
namespace YLex

/-- a token without its end offset -/
def eraseEnd (t : Tok) : Kind × String := (t.kind, t.value)

/-- a relation between states that fixes what a state function can read, and that `adv` and `ignore` respect -/
structure StRel (R : St → St → Prop) : Prop where
  rest {a b : St} : R a b → a.rest = b.rest
  pend {a b : St} : R a b → a.pend = b.pend
  adv {a b : St} (n : Nat) : R a b → R (a.adv n) (b.adv n)
  ignore {a b : St} : R a b → R a.ignore b.ignore

/-- same kinds and values, related states, same continue flag -/
structure ResRel (R : St → St → Prop) (r r' : Res) : Prop where
  toks : r.toks.map eraseEnd = r'.toks.map eraseEnd
  st : R r.st r'.st
  go : r.go = r'.go

variable {R : St → St → Prop} {a b s s' : St}

/-! The shapes in which the state functions return: nothing emitted, the error exits, and (below) `emit`: a token
    from the pending characters, which are then dropped, `emitV`: the same with a given value. -/

theorem ResRel.skip (h : R s s') : ResRel R (cont [] s) (cont [] s') := ⟨rfl, h, rfl⟩
theorem ResRel.err (h : R s s') : ResRel R (stop [errTok] s) (stop [errTok] s') := ⟨rfl, h, rfl⟩
theorem ResRel.errCont (h : R s s') : ResRel R (cont [errTok] s) (cont [errTok] s') := ⟨rfl, h, rfl⟩
theorem ResRel.pre {t t' : List Tok} {r r' : Res} (ht : t.map eraseEnd = t'.map eraseEnd) (h : ResRel R r r') :
    ResRel R ⟨t ++ r.toks, r.st, r.go⟩ ⟨t' ++ r'.toks, r'.st, r'.go⟩ :=
  ⟨by simp only [List.map_append, ht, h.toks], h.st, h.go⟩
theorem ResRel.preCont {t t' u u' : List Tok} (ht : t.map eraseEnd = t'.map eraseEnd)
    (hu : u.map eraseEnd = u'.map eraseEnd) (hs : R s s') : ResRel R (cont (t ++ u) s) (cont (t' ++ u') s') :=
  ⟨by simp only [cont, List.map_append, ht, hu], hs, rfl⟩
theorem ResRel.ite {c : Prop} [Decidable c] {x x' y y' : Res} (hx : ResRel R x x') (hy : ResRel R y y') :
    ResRel R (if c then x else y) (if c then x' else y') := by
  split <;> assumption

variable (hR : StRel R)
include hR

theorem StRel.skip (q : Char → Bool) (h : R a b) : R (a.skipWhile q) (b.skipWhile q) := by
  unfold St.skipWhile; rw [hR.rest h]; exact hR.adv _ h

theorem StRel.tok (k : Kind) (h : R a b) : eraseEnd (a.tok k) = eraseEnd (b.tok k) := by
  simp [eraseEnd, St.tok, St.word, hR.pend h]

theorem ResRel.emit (k : Kind) (h : R s s') : ResRel R (cont [s.tok k] s.ignore) (cont [s'.tok k] s'.ignore) :=
  ⟨congrArg (· :: []) (hR.tok k h), hR.ignore h, rfl⟩
theorem ResRel.emitV (k : Kind) (v : String) (h : R s s') :
    ResRel R (cont [s.tokV k v] s.ignore) (cont [s'.tokV k v] s'.ignore) := ⟨rfl, hR.ignore h, rfl⟩

theorem rel_comment (h : R a b) : ResRel R (commentState a) (commentState b) := by
  unfold commentState
  simp only [hR.rest h, hR.rest (hR.adv 2 h)]
  split
  · exact .skip (hR.ignore (hR.adv _ (hR.skip _ h)))
  · split
    · exact .skip (hR.ignore (hR.adv _ (hR.adv _ h)))
    · exact .err (hR.ignore (hR.adv _ (hR.adv _ h)))

theorem rel_actionQuote (h : R a b) : ResRel R (actionQuoteState a) (actionQuoteState b) := by
  unfold actionQuoteState
  rw [hR.rest h]
  split
  · exact .emit hR _ (hR.adv _ h)
  · exact .err (hR.adv _ h)

theorem rel_charater (h : R a b) : ResRel R (charaterState a) (charaterState b) := by
  unfold charaterState
  rw [hR.rest h]
  split
  · exact .emitV hR _ _ (hR.adv _ h)
  · exact .err (hR.adv _ h)
  · exact .emitV hR _ _ (hR.adv _ h)
  · exact .err (hR.adv _ h)

theorem rel_string (h : R a b) : ResRel R (stringKindState a) (stringKindState b) := by
  unfold stringKindState
  rw [hR.rest h]
  split
  · exact .emitV hR _ _ (hR.adv _ h)
  · exact .err (hR.adv _ h)

theorem rel_identify (h : R a b) : ResRel R (identifyState a) (identifyState b) :=
  .emit hR _ (hR.skip _ h)

theorem rel_number (h : R a b) : ResRel R (numberRest a) (numberRest b) :=
  .emit hR _ (hR.skip _ h)

theorem rel_acceptAlpha (w : String) (h : R a b) : Option.Rel R (acceptAlpha w a) (acceptAlpha w b) := by
  have h2 := hR.adv w.length (hR.skip (· == ' ') h)
  unfold acceptAlpha
  simp only [hR.rest (hR.skip (· == ' ') h), hR.rest h2]
  split
  · split
    · split
      · exact .none
      · exact .some h2
    · exact .some h2
  · exact .none

/-- case split on `acceptAlpha w sa` / `acceptAlpha w sb` for `hs : R sa sb`: both `none`, or both `some`
    with related states -/
macro "acc_cases " hR:term " , " w:term " , " sa:term " , " sb:term " , " hs:term : tactic => `(tactic| (
  have e := rel_acceptAlpha $hR $w (a := $sa) (b := $sb) $hs
  revert e
  generalize acceptAlpha $w $sa = x
  generalize acceptAlpha $w $sb = y
  intro e
  cases e))

theorem rel_action (h : R a b) : ResRel R (actionState a) (actionState b) := by
  unfold actionState
  simp only [hR.rest h]
  split
  · exact .emit hR _ (hR.adv _ h)
  · split
    · exact .emit hR _ (hR.skip _ (hR.adv _ h))
    · acc_cases hR, "accept", (a.adv 1), (b.adv 1), hR.adv _ h
      · exact .emit hR _ ‹_›
      · acc_cases hR, "end", (a.adv 1), (b.adv 1), hR.adv _ h
        · exact .emit hR _ ‹_›
        · exact .errCont (hR.adv _ h)
  · acc_cases hR, "accept", a, b, h
    · exact .emit hR _ ‹_›
    · acc_cases hR, "end", a, b, h
      · exact .emit hR _ ‹_›
      · exact .errCont h

theorem rel_codeQuote (h : R a b) : ResRel R (codeQuoteBegin a) (codeQuoteBegin b) := by
  unfold codeQuoteBegin
  rw [hR.rest h]
  split
  · exact .emitV hR _ _ (hR.adv _ h)
  · exact .err (hR.adv _ h)

theorem rel_union (h : R a b) : ResRel R (directiveUnionState a) (directiveUnionState b) := by
  have h1 := hR.skip isBlank3 h
  have h2 := hR.adv 1 h1
  unfold directiveUnionState
  simp only [hR.rest h1, hR.rest h2]
  split
  · split
    · exact .emitV hR _ _ (hR.adv _ h2)
    · exact .err (hR.adv _ h2)
  · exact .err h1

theorem rel_optWord (w : String) (k : Kind) (h : R a b) :
    (optWord w k a).1.map eraseEnd = (optWord w k b).1.map eraseEnd ∧ R (optWord w k a).2 (optWord w k b).2 := by
  unfold optWord
  acc_cases hR, w, a, b, h
  · rename_i hs; exact ⟨congrArg (· :: []) (hR.tok k hs), hR.ignore hs⟩
  · exact ⟨rfl, h⟩

theorem rel_chain (ws : List (String × Kind)) (h : R a b) (acc acc' : List Tok)
    (hacc : acc.map eraseEnd = acc'.map eraseEnd) :
    (directiveChain ws a acc).1.map eraseEnd = (directiveChain ws b acc').1.map eraseEnd ∧
      R (directiveChain ws a acc).2 (directiveChain ws b acc').2 := by
  induction ws generalizing a b acc acc' with
  | nil => exact ⟨by simp only [directiveChain]; rw [List.map_reverse, List.map_reverse, hacc], h⟩
  | cons x xs ih =>
    unfold directiveChain
    acc_cases hR, x.1, a, b, h
    · rename_i hs
      exact ih (hR.ignore hs) _ _ (by simp [hR.tok x.2 hs, hacc])
    · exact ih h _ _ hacc

theorem rel_directiveOther (h : R a b) : ResRel R (directiveOtherState a) (directiveOtherState b) := by
  unfold directiveOtherState
  simp only
  have h1 := rel_optWord hR "type" .typeDir h
  have h2 := rel_optWord hR "token" .tokenDir h1.2
  acc_cases hR, "union", (optWord "token" .tokenDir (optWord "type" .typeDir a).2).2,
    (optWord "token" .tokenDir (optWord "type" .typeDir b).2).2, h2.2
  · exact .pre (by simp only [List.map_append, h1.1, h2.1]) (rel_union hR ‹_›)
  · have h3 := rel_chain hR directiveWords h2.2 [] [] rfl
    exact .preCont (by simp only [List.map_append, h1.1, h2.1]) h3.1 h3.2

theorem rel_directive (h : R a b) : ResRel R (directiveState a) (directiveState b) := by
  unfold directiveState
  rw [hR.rest h]
  split
  · exact .emit hR _ (hR.adv _ h)
  · exact rel_codeQuote hR (hR.adv _ h)
  · exact rel_directiveOther hR h

theorem rel_dispatch (c : Char) (h : R a b) : ResRel R (dispatch c a) (dispatch c b) := by
  unfold dispatch
  exact .ite (rel_directive hR h) <| .ite (rel_action hR h) <| .ite (.emit hR _ h) <| .ite (.emit hR _ h) <|
    .ite (.emit hR _ h) <| .ite (.skip (hR.ignore h)) <| .ite (rel_charater hR h) <| .ite (rel_string hR h) <|
    .ite (rel_identify hR h) <| .ite (.emit hR _ h) <| .ite (.emit hR _ h) <| .ite (rel_number hR h) <|
    .ite (rel_number hR h) <| .ite (rel_actionQuote hR h) (.err h)

theorem rel_rootStep (h : R a b) : ResRel R (rootStep a) (rootStep b) := by
  unfold rootStep
  rw [hR.rest h]
  split
  · exact rel_comment hR h
  · split
    · exact ⟨rfl, h, rfl⟩
    · exact rel_dispatch hR _ (hR.adv _ h)

end YLex
