/-! The generated parser's stack (growable array + stack pointer, slots at or above the pointer are
    stale) refines a plain list stack, on a small stand-alone model `ArrS` with both ways of initialising it. -/
namespace ArrS

/-! The two list facts behind push and pop on "array + pointer", for any entry type (`Y.AD.AStack`
    rests on them as well): the live part is `(a.take sp).reverse`. -/

theorem live_push {α : Type} (a : List α) (sp : Nat) (e : α) (h : sp ≤ a.length) :
    ((if sp ≥ a.length then a ++ [e] else a.set sp e).take (sp + 1)).reverse = e :: (a.take sp).reverse := by
  split
  · have : sp = a.length := by omega
    simp [this, List.take_of_length_le]
  · rw [List.take_add_one]
    simp [List.take_set_of_le (Nat.le_refl _), List.getElem?_set_self (show sp < a.length by omega)]

theorem live_pop {α : Type} (a : List α) (sp n : Nat) (h : sp ≤ a.length) (hn : n ≤ sp) :
    (a.take (sp - n)).reverse = ((a.take sp).reverse).drop n := by
  rw [List.drop_reverse, List.take_take, List.length_take]
  congr 2
  omega

structure Ent where
  st : Nat
  sym : Nat
  val : Int
deriving Repr, DecidableEq

structure Arr where
  a : List Ent          -- the slice (as a list: index 0 is the bottom)
  sp : Nat

/-- PushStateSym: append when the pointer is at the end, else overwrite the stale slot -/
def push (s : Arr) (e : Ent) : Arr :=
  if s.sp ≥ s.a.length then ⟨s.a ++ [e], s.sp + 1⟩ else ⟨s.a.set s.sp e, s.sp + 1⟩

/-- PopStateSym -/
def pop (s : Arr) (n : Nat) : Arr := ⟨s.a, s.sp - n⟩

/-- the live part, top first -/
def abs (s : Arr) : List Ent := (s.a.take s.sp).reverse

def Inv (s : Arr) : Prop := s.sp ≤ s.a.length

theorem inv_push (s : Arr) (e : Ent) (h : Inv s) : Inv (push s e) := by
  unfold Inv push at *
  split <;> simp <;> omega

theorem inv_pop (s : Arr) (n : Nat) (h : Inv s) : Inv (pop s n) := by
  unfold Inv pop at *; simp; omega

theorem abs_push (s : Arr) (e : Ent) (h : Inv s) : abs (push s e) = e :: abs s := by
  unfold abs
  rw [← live_push s.a s.sp e h]
  unfold push
  split <;> rfl

theorem abs_pop (s : Arr) (n : Nat) (h : Inv s) (hn : n ≤ s.sp) : abs (pop s n) = (abs s).drop n :=
  live_pop s.a s.sp n h hn

/-- stale contents never matter: two arrays with the same live part are indistinguishable to
    push, pop and `abs`, hence to the whole driver -/
theorem abs_push_congr (s t : Arr) (e : Ent) (hs : Inv s) (ht : Inv t) (h : abs s = abs t) :
    abs (push s e) = abs (push t e) := by
  rw [abs_push s e hs, abs_push t e ht, h]

/-- ParserInit of the global-state template: whatever was there before -/
def initGlobal (_ : Arr) (bottom : Ent) : Arr := ⟨[bottom], 1⟩
theorem abs_initGlobal (s : Arr) (b : Ent) : abs (initGlobal s b) = [b] := by simp [initGlobal, abs]

/-- ParserInit of the context template: append, then reset the pointer -/
def initObj (s : Arr) (bottom : Ent) : Arr := ⟨s.a ++ [bottom], 1⟩
theorem abs_initObj (s : Arr) (b : Ent) (h : s.a = [] ∨ s.a[0]? = some b) : abs (initObj s b) = [b] := by
  unfold initObj abs
  rcases h with h | h
  · simp [h]
  · cases hs : s.a with
    | nil => simp [hs] at h
    | cons x xs => simp [hs] at h ⊢; exact h

end ArrS
