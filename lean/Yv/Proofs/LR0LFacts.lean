import Yv.Model.LR0L
import Yv.Proofs.CanonFacts
import Yv.Proofs.ListFacts
/-! Facts about the list-based LR(0) worklist `buildL`: sorting, kernels, one step, the loop
    invariant. -/
namespace Y

theorem itemLt_iff {a b : Item} : itemLt a b = true ↔ a.r < b.r ∨ (a.r = b.r ∧ a.d < b.d) := by
  simp only [itemLt, Bool.or_eq_true, Bool.and_eq_true, decide_eq_true_eq, beq_iff_eq]

theorem Item.eq_iff {a b : Item} : a = b ↔ a.r = b.r ∧ a.d = b.d := by
  cases a; cases b; simp

theorem itemLt_irrefl (a : Item) : itemLt a a = true → False := by
  rw [itemLt_iff]; omega

theorem itemLt_trans {a b c : Item} (h1 : itemLt a b = true) (h2 : itemLt b c = true) :
    itemLt a c = true := by
  rw [itemLt_iff] at *; omega

theorem itemLt_total {a b : Item} (h1 : itemLt a b = false) (h2 : a ≠ b) : itemLt b a = true := by
  rw [← Bool.not_eq_true, itemLt_iff] at h1
  rw [Ne, Item.eq_iff] at h2
  rw [itemLt_iff]; omega

/-- strictly sorted by (rule, dot) -/
def SortedI (l : List Item) : Prop := l.Pairwise (fun a b => itemLt a b = true)

theorem SortedI.nodup {l : List Item} (h : SortedI l) : l.Nodup :=
  List.Pairwise.imp (fun {a b} hab (e : a = b) => by subst e; exact itemLt_irrefl a hab) h

theorem mem_insertI {x y : Item} : ∀ {l : List Item}, y ∈ insertI x l ↔ y = x ∨ y ∈ l
  | [] => by simp [insertI]
  | z :: zs => by
    unfold insertI
    split
    · simp
    · split
      · simp_all
      · simp [mem_insertI (l := zs), or_left_comm]

theorem sorted_insertI (x : Item) : ∀ {l : List Item}, SortedI l → SortedI (insertI x l)
  | [], _ => by simp [insertI, SortedI]
  | z :: zs, h => by
    have hz := List.pairwise_cons.mp h
    unfold insertI
    split
    · rename_i hxz
      exact List.pairwise_cons.mpr ⟨fun w hw => (List.mem_cons.mp hw).elim (· ▸ hxz)
        fun hw => itemLt_trans hxz (hz.1 w hw), h⟩
    · split
      · exact h
      · rename_i hxz hne
        refine List.pairwise_cons.mpr ⟨fun w hw => ?_, sorted_insertI x hz.2⟩
        rcases mem_insertI.mp hw with rfl | hw
        · exact itemLt_total (by simpa using hxz) hne
        · exact hz.1 w hw

theorem mem_sortI {y : Item} {l : List Item} : y ∈ sortI l ↔ y ∈ l := by
  induction l with
  | nil => simp [sortI]
  | cons x xs ih => rw [sortI, List.foldr_cons, mem_insertI, ← sortI, ih, List.mem_cons]

theorem sorted_sortI (l : List Item) : SortedI (sortI l) := by
  induction l with
  | nil => exact List.Pairwise.nil
  | cons x xs ih => exact sorted_insertI x ih

theorem sorted_ext {l₁ l₂ : List Item} (h1 : SortedI l₁) (h2 : SortedI l₂)
    (h : ∀ it, it ∈ l₁ ↔ it ∈ l₂) : l₁ = l₂ :=
  List.Perm.eq_of_pairwise (fun a _ _ _ hab hba => (itemLt_irrefl a (itemLt_trans hab hba)).elim) h1 h2
    ((List.perm_ext_iff_of_nodup h1.nodup h2.nodup).mpr h)

theorem closureS_sorted {G : Grammar} {k cl : List Item} (h : closureS G k = some cl) :
    SortedI cl := by
  obtain ⟨l, _, rfl⟩ := Option.map_eq_some_iff.mp h
  exact sorted_sortI l

theorem closureS_isClosureOf {G : Grammar} {k cl : List Item} (h : closureS G k = some cl) :
    isClosureOf G cl k = true := by
  obtain ⟨l, hl, rfl⟩ := Option.map_eq_some_iff.mp h
  rw [isClosureOf, hl]
  exact sameElems_iff.mpr fun it => mem_sortI

theorem mem_dedupS {y : Sym} {l : List Sym} : y ∈ dedupS l ↔ y ∈ l := by
  induction l with
  | nil => simp [dedupS]
  | cons x xs ih =>
    by_cases e : y = x <;> simp [dedupS, ih, e]

theorem nodup_dedupS (l : List Sym) : (dedupS l).Nodup := by
  induction l with
  | nil => exact List.nodup_nil
  | cons x xs ih => exact List.nodup_cons.mpr ⟨by simp [List.mem_filter], ih.filter _⟩

theorem mem_symsOf {G : Grammar} {its : List Item} {X : Sym} :
    X ∈ symsOf G its ↔ ∃ it ∈ its, afterDot G it = some X := by
  rw [symsOf, mem_dedupS, List.mem_filterMap]

theorem nodup_symsOf (G : Grammar) (its : List Item) : (symsOf G its).Nodup := nodup_dedupS _

theorem kernels_fst (G : Grammar) (its : List Item) :
    (kernels G its).map Prod.fst = symsOf G its := by
  rw [kernels, List.map_map]
  exact List.map_id _

theorem mem_kernels {G : Grammar} {its k : List Item} {X : Sym} (h : (X, k) ∈ kernels G its) :
    k = advance G X its := by
  obtain ⟨Y, _, hY⟩ := List.mem_map.mp h
  cases hY
  rfl

theorem getD_app_len {α : Type} (l : List α) (x : α) (e : List α) (d : α) :
    (l ++ x :: e).getD l.length d = x := by
  simp [List.getD_eq_getElem?_getD]

theorem findSt_some {cl : List Item} {ss : List (List Item)} {j : Nat} (h : findSt cl ss = some j) :
    j < ss.length ∧ ss.getD j [] = cl := by
  fun_induction findSt cl ss generalizing j with
  | case1 => cases h
  | case2 ss => cases h; exact ⟨Nat.zero_lt_succ _, rfl⟩
  | case3 s ss hs ih =>
    obtain ⟨j', hj', rfl⟩ := Option.map_eq_some_iff.mp h
    exact ⟨Nat.succ_lt_succ (ih hj').1, (ih hj').2⟩

theorem findSt_none {cl : List Item} {ss : List (List Item)} (h : findSt cl ss = none) : cl ∉ ss := by
  fun_induction findSt cl ss with
  | case1 => simp
  | case2 ss => cases h
  | case3 s ss hs ih =>
    rw [List.mem_cons, not_or]
    exact ⟨fun e => hs e.symm, ih (Option.map_eq_none_iff.mp h)⟩

theorem getD_snoc_cases {α : Type} (l : List α) (x d : α) {q : Nat} (hq : q < (l ++ [x]).length) :
    (q < l.length ∧ (l ++ [x]).getD q d = l.getD q d) ∨ (q = l.length ∧ (l ++ [x]).getD q d = x) := by
  rw [List.length_append, List.length_singleton] at hq
  rcases Nat.lt_succ_iff_lt_or_eq.mp hq with h | rfl
  · exact .inl ⟨h, getD_append_left d h⟩
  · exact .inr ⟨rfl, getD_app_len l x [] d⟩

/-- the state list is well-formed: every state is strictly sorted, no two states are equal -/
structure StOK (sts : List (List Item)) : Prop where
  sorted : ∀ q, q < sts.length → SortedI (sts.getD q [])
  distinct : ∀ p q, p < q → q < sts.length → sts.getD p [] ≠ sts.getD q []

theorem StOK.snoc {sts : List (List Item)} {cl : List Item} (h : StOK sts) (hs : SortedI cl)
    (hn : cl ∉ sts) : StOK (sts ++ [cl]) := by
  refine ⟨fun q hq => ?_, fun p q hpq hq => ?_⟩
  · rcases getD_snoc_cases sts cl [] hq with ⟨h', e⟩ | ⟨_, e⟩ <;> rw [e]
    · exact h.sorted q h'
    · exact hs
  · rcases getD_snoc_cases sts cl [] hq with ⟨h', e⟩ | ⟨rfl, e⟩ <;> rw [e]
    · rw [getD_append_left _ (Nat.lt_trans hpq h')]; exact h.distinct p q hpq h'
    · rw [getD_append_left _ hpq]
      exact fun e => hn (e ▸ getD_mem [] hpq)

/-- where the closure `cl` of a successor kernel goes: it is state `j` of `sts'`, which is `sts`
    when `cl` was there already and `sts ++ [cl]` otherwise -/
def Placed (cl : List Item) (sts sts' : List (List Item)) (j : Nat) : Prop :=
  (findSt cl sts = some j ∧ sts' = sts) ∨ (findSt cl sts = none ∧ sts' = sts ++ [cl] ∧ j = sts.length)

theorem stepK_cons {G : Grammar} {e : Sym × List Item} {ks : List (Sym × List Item)}
    {sts : List (List Item)} {r : List (List Item) × List (Sym × Nat)}
    (h : stepK G (e :: ks) sts = some r) :
    ∃ cl sts' j r', closureS G e.2 = some cl ∧ Placed cl sts sts' j ∧ stepK G ks sts' = some r' ∧
      r = (r'.1, (e.1, j) :: r'.2) := by
  unfold stepK at h
  cases hc : closureS G e.2 with
  | none => simp [hc] at h
  | some cl =>
    cases hf : findSt cl sts with
    | some j =>
      obtain ⟨r', hr, rfl⟩ := Option.map_eq_some_iff.mp (by simpa only [hc, hf] using h)
      exact ⟨cl, sts, j, r', rfl, .inl ⟨hf, rfl⟩, hr, rfl⟩
    | none =>
      obtain ⟨r', hr, rfl⟩ := Option.map_eq_some_iff.mp (by simpa only [hc, hf] using h)
      exact ⟨cl, _, _, r', rfl, .inr ⟨hf, rfl, rfl⟩, hr, rfl⟩

theorem Placed.spec {cl : List Item} {sts sts' : List (List Item)} {j : Nat} (h : Placed cl sts sts' j) :
    (∃ ext, sts' = sts ++ ext) ∧ j < sts'.length ∧ sts'.getD j [] = cl ∧
    (∀ p, sts.length ≤ p → p < sts'.length → p = j) ∧
    (StOK sts → SortedI cl → StOK sts') := by
  rcases h with ⟨hf, rfl⟩ | ⟨hf, rfl, rfl⟩
  · obtain ⟨hj, hjcl⟩ := findSt_some hf
    exact ⟨⟨[], (List.append_nil _).symm⟩, hj, hjcl, fun p h1 h2 => by omega, fun ok _ => ok⟩
  · exact ⟨⟨_, rfl⟩, by simp, getD_app_len _ _ _ _, fun p h1 h2 => by simp at h2; omega,
      fun ok hs => ok.snoc hs (findSt_none hf)⟩

/-- what `stepK` returns: the states are only extended and stay well-formed; the goto list has one
    entry per kernel, in order, pointing to the sorted closure of that kernel; every new state is
    the target of one of the entries -/
theorem stepK_spec {G : Grammar} : ∀ (ks : List (Sym × List Item)) (sts : List (List Item))
    (r : List (List Item) × List (Sym × Nat)), stepK G ks sts = some r →
    (∃ ext, r.1 = sts ++ ext) ∧ (StOK sts → StOK r.1) ∧ r.2.map Prod.fst = ks.map Prod.fst ∧
    (∀ e ∈ r.2, e.2 < r.1.length ∧
      ∃ k, (e.1, k) ∈ ks ∧ closureS G k = some (r.1.getD e.2 [])) ∧
    (∀ p, sts.length ≤ p → p < r.1.length → ∃ e ∈ r.2, e.2 = p)
  | [], sts, r, h => by
    cases h
    exact ⟨⟨[], (List.append_nil _).symm⟩, id, rfl, nofun, fun p h1 h2 => absurd h2 (Nat.not_lt.mpr h1)⟩
  | e :: ks, sts, r, h => by
    obtain ⟨cl, sts', j, r', hc, hp, hr', rfl⟩ := stepK_cons h
    obtain ⟨⟨x, rfl⟩, hj, hjcl, hnew0, hok⟩ := hp.spec
    obtain ⟨⟨ext, he⟩, ok', hm, hent, hnew⟩ := stepK_spec ks _ r' hr'
    refine ⟨⟨x ++ ext, by rw [he, List.append_assoc]⟩, fun ok => ok' (hok ok (closureS_sorted hc)),
      by simp only [List.map_cons, hm], fun e' he' => ?_, fun p h1 h2 => ?_⟩
    · rcases List.mem_cons.mp he' with rfl | he'
      · refine ⟨?_, e.2, List.mem_cons_self, ?_⟩
        · show j < r'.1.length
          rw [he, List.length_append]; omega
        · show closureS G e.2 = some (r'.1.getD j [])
          rw [he, getD_append_left _ hj, hjcl, hc]
      · obtain ⟨h1, k, hk, h2⟩ := hent e' he'
        exact ⟨h1, k, List.mem_cons_of_mem _ hk, h2⟩
    · rcases Nat.lt_or_ge p (sts ++ x).length with h3 | h3
      · exact ⟨(e.1, j), List.mem_cons_self, (hnew0 p h1 h3).symm⟩
      · obtain ⟨e', he', hp'⟩ := hnew p h3 h2
        exact ⟨e', List.mem_cons_of_mem _ he', hp'⟩

/-- invariant of the worklist: `gts.length` states are processed.
    (i) state 0 is the closure of the start item; (ii) all states are strictly sorted and pairwise
    distinct; (iii) a processed state has exactly one goto entry for every symbol after a dot (in
    order of first occurrence), pointing to the closure of the advanced items; (iv) every state
    other than 0 is the target of an entry of an earlier, processed state. -/
structure LInv (G : Grammar) (sts : List (List Item)) (gts : List (List (Sym × Nat))) : Prop where
  pos : 0 < sts.length
  le : gts.length ≤ sts.length
  s0 : isClosureOf G (sts.getD 0 []) [⟨0, 0⟩] = true
  ok : StOK sts
  syms : ∀ q, q < gts.length → (gts.getD q []).map Prod.fst = symsOf G (sts.getD q [])
  entry : ∀ q, q < gts.length → ∀ e ∈ gts.getD q [], e.2 < sts.length ∧
      isClosureOf G (sts.getD e.2 []) (advance G e.1 (sts.getD q [])) = true
  reach : ∀ p, 0 < p → p < sts.length →
      ∃ q, q < p ∧ q < gts.length ∧ ∃ e ∈ gts.getD q [], e.2 = p

theorem LInv.init {G : Grammar} {s0 : List Item} (h : closureS G [⟨0, 0⟩] = some s0) :
    LInv G [s0] [] := by
  refine ⟨Nat.zero_lt_succ _, Nat.zero_le _, closureS_isClosureOf h, ⟨fun q hq => ?_, fun p q hpq hq => ?_⟩,
    nofun, nofun, fun p hp hp1 => ?_⟩
  · rw [Nat.lt_one_iff.mp hq]; exact closureS_sorted h
  · exact absurd hpq (by rw [Nat.lt_one_iff.mp hq]; exact Nat.not_lt_zero _)
  · exact absurd hp (by rw [Nat.lt_one_iff.mp hp1]; exact Nat.lt_irrefl _)

theorem LInv.step {G : Grammar} {sts : List (List Item)} {gts : List (List (Sym × Nat))}
    {r : List (List Item) × List (Sym × Nat)} (inv : LInv G sts gts) (hlt : gts.length < sts.length)
    (h : stepK G (kernels G (sts.getD gts.length [])) sts = some r) :
    LInv G r.1 (gts ++ [r.2]) := by
  obtain ⟨⟨ext, he⟩, ok', hm, hent, hnew⟩ := stepK_spec _ sts r h
  have hle : sts.length ≤ r.1.length := by rw [he, List.length_append]; omega
  have hst : ∀ p, p < sts.length → r.1.getD p [] = sts.getD p [] :=
    fun p hp => by rw [he]; exact getD_append_left _ hp
  have hglen : (gts ++ [r.2]).length = gts.length + 1 := by simp
  refine ⟨Nat.lt_of_lt_of_le inv.pos hle, by omega, by rw [hst 0 inv.pos]; exact inv.s0, ok' inv.ok,
    fun q hq => ?_, fun q hq e hmem => ?_, fun p hp0 hp => ?_⟩
  · rcases getD_snoc_cases gts r.2 [] hq with ⟨h', e⟩ | ⟨rfl, e⟩ <;> rw [e]
    · rw [hst q (Nat.lt_of_lt_of_le h' inv.le)]; exact inv.syms q h'
    · rw [hst _ hlt, hm, kernels_fst]
  · rcases getD_snoc_cases gts r.2 [] hq with ⟨h', e'⟩ | ⟨rfl, e'⟩ <;> rw [e'] at hmem
    · obtain ⟨h1, h2⟩ := inv.entry q h' e hmem
      rw [hst q (Nat.lt_of_lt_of_le h' inv.le), hst e.2 h1]
      exact ⟨Nat.lt_of_lt_of_le h1 hle, h2⟩
    · obtain ⟨h1, k, hk, h2⟩ := hent e hmem
      rw [hst _ hlt, ← mem_kernels hk]
      exact ⟨h1, closureS_isClosureOf h2⟩
  · rcases Nat.lt_or_ge p sts.length with h' | h'
    · obtain ⟨q, hqp, hq, e, hmem, hep⟩ := inv.reach p hp0 h'
      exact ⟨q, hqp, by omega, e, by rw [getD_append_left _ hq]; exact hmem, hep⟩
    · obtain ⟨e, hmem, hep⟩ := hnew p h' hp
      exact ⟨gts.length, by omega, by omega, e, by rw [getD_app_len]; exact hmem, hep⟩

theorem loopL_inv {G : Grammar} {fuel : Nat} {sts : List (List Item)}
    {gts : List (List (Sym × Nat))} {A : Auto} (h : loopL G fuel sts gts = some A)
    (inv : LInv G sts gts) : LInv G A.items A.gotos ∧ A.items.length ≤ A.gotos.length := by
  fun_induction loopL G fuel sts gts with
  | case1 => cases h
  | case2 fuel sts gts hd => cases h; exact ⟨inv, hd⟩
  | case3 => cases h
  | case4 => cases h
  | case5 fuel sts gts hd r hr hcap ih => exact ih h (inv.step (Nat.lt_of_not_le hd) hr)

theorem buildL_inv {G : Grammar} {A : Auto} (h : buildL G = some A) :
    LInv G A.items A.gotos ∧ A.items.length ≤ A.gotos.length := by
  unfold buildL at h
  split at h
  · cases h
  · rename_i s0 hs0
    exact loopL_inv h (LInv.init hs0)

theorem certCanon_of_inv {G : Grammar} {A : Auto} (inv : LInv G A.items A.gotos)
    (hd : A.items.length ≤ A.gotos.length) : certCanon G A = true := by
  have hlen : A.gotos.length = A.items.length := Nat.le_antisymm inv.le hd
  have hsyms : ∀ q, q < A.n → (A.gts q).map Prod.fst = symsOf G (A.its q) :=
    fun q hq => inv.syms q (hlen ▸ hq)
  refine certCanon_iff.mpr ⟨⟨inv.pos, hlen⟩, inv.s0, fun q hq it hit X hX => ?_, fun q hq e he => ?_,
    fun q hq => hsyms q hq ▸ nodup_symsOf _ _, fun q hq p hp hse => ?_, fun p hp => ?_,
    fun q hq => (inv.ok.sorted q hq).nodup⟩
  · have hm : X ∈ (A.gts q).map Prod.fst := hsyms q hq ▸ mem_symsOf.mpr ⟨it, hit, hX⟩
    obtain ⟨e, he, hex⟩ := List.mem_map.mp hm
    exact ⟨e, he, hex⟩
  · have hm : e.1 ∈ symsOf G (A.its q) := hsyms q hq ▸ List.mem_map.mpr ⟨e, he, rfl⟩
    exact ⟨mem_symsOf.mp hm, inv.entry q (hlen ▸ hq) e he⟩
  · exact inv.ok.distinct p q hp hq
      (sorted_ext (inv.ok.sorted q hq) (inv.ok.sorted p (Nat.lt_trans hp hq)) hse).symm
  · rcases Nat.eq_zero_or_pos p with h0 | h0
    · exact .inl h0
    · obtain ⟨q, hqp, _, e, he, hep⟩ := inv.reach p h0 hp
      exact .inr ⟨q, hqp, e, he, hep⟩

/-- once the fuel covers the distance to the cap, more fuel changes nothing -/
theorem loopL_fuel_succ {G : Grammar} {fuel : Nat} {sts : List (List Item)}
    {gts : List (List (Sym × Nat))} (h1 : gts.length ≤ sts.length) (h2 : sts.length < stateCap)
    (h3 : stateCap ≤ fuel + gts.length) : loopL G (fuel + 1) sts gts = loopL G fuel sts gts := by
  fun_induction loopL G fuel sts gts with
  | case1 => omega
  | case2 fuel sts gts hd => simp only [loopL, hd, if_true]
  | case3 fuel sts gts hd hr => simp only [loopL, hd, hr, if_false]
  | case4 fuel sts gts hd r hr hcap => simp only [loopL, hd, hr, hcap, if_false, if_true]
  | case5 fuel sts gts hd r hr hcap ih =>
    obtain ⟨⟨ext, hx⟩, _⟩ := stepK_spec _ _ _ hr
    rw [loopL]
    simp only [hd, hr, hcap, if_false]
    exact ih (by simp only [List.length_append, hx]; simp; omega) (Nat.lt_of_not_le hcap)
      (by simp only [List.length_append, List.length_singleton]; omega)

end Y
