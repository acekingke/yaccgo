import Yv.Model.Digraph
import Yv.Proofs.DPModel
/-! Facts about the model of `Digraph`/`Traverse` (`Yv/Model/Digraph.lean`):

* totality with the fuel `digraph` supplies (`roots_total`),
* the traversal invariant (`Inv`, one `Node` record per node) and the Hoare-style specification of
  `traverse` (`traverse_spec`),
* the result: on every node reachable from `X` the final `F` is the least solution, and `F` is sound
  everywhere (`digraphSt_spec`);
* in namespace `Y.DGP`, the three places where the lookahead computation calls `digraph` (Read, Follow, LA):
  its results are the sets of the stage model (`stagesDG_sets`, `dg_la_iff`). -/
namespace Y.DG
open Y.DP (Sol)

theorem getA_setA {α : Type} (d : α) (k : Nat) (v : α) (j : Nat) :
    ∀ (m : List (Nat × α)), getA d (setA m k v) j = if j = k then v else getA d m j
  | [] => by simp [setA, getA, eq_comm]
  | e :: m => by
    have ih := getA_setA d k v j m
    simp only [setA, getA]
    grind [getA]

@[simp] theorem enter_n (Fp : Nat → List Nat) (x : Nat) (st : St) (u : Nat) :
    (enter Fp x st).n u = if u = x then st.S.length + 1 else st.n u := getA_setA ..

@[simp] theorem enter_f (Fp : Nat → List Nat) (x : Nat) (st : St) (u : Nat) :
    (enter Fp x st).f u = if u = x then Fp x else st.f u := getA_setA ..

@[simp] theorem enter_S (Fp : Nat → List Nat) (x : Nat) (st : St) : (enter Fp x st).S = x :: st.S := rfl

@[simp] theorem relax_n (x y : Nat) (st : St) (u : Nat) :
    (relax x y st).n u = if u = x then min (st.n x) (st.n y) else st.n u := getA_setA ..

@[simp] theorem relax_f (x y : Nat) (st : St) (u : Nat) :
    (relax x y st).f u = if u = x then union (st.f y) (st.f x) else st.f u := getA_setA ..

@[simp] theorem relax_S (x y : Nat) (st : St) : (relax x y st).S = st.S := rfl

theorem mem_union {a : Nat} {xs ys : List Nat} : a ∈ union xs ys ↔ a ∈ xs ∨ a ∈ ys := by
  by_cases h : a ∈ ys <;> simp [union, h]

theorem inf_ne_zero : inf ≠ 0 := by decide

/-- `finish x d` on a stack `A ++ x :: B` with `x ∉ A`: if `N x = d`, the nodes of `A` and `x` are finished
    with `F x` and the stack is `B` -/
theorem popLoop_spec (x : Nat) (B : List Nat) : ∀ (A : List Nat) (N : List (Nat × Nat))
    (F : List (Nat × List Nat)), x ∉ A →
    (popLoop x (A ++ x :: B) N F).S = B ∧
    (∀ u, (popLoop x (A ++ x :: B) N F).n u = if u ∈ A ∨ u = x then inf else getA 0 N u) ∧
    (∀ u, (popLoop x (A ++ x :: B) N F).f u =
      if u ∈ A ∨ u = x then getA [] F x else getA [] F u)
  | [], N, F, _ => by simp [popLoop, St.n, St.f, getA_setA]
  | t :: A, N, F, hx => by
    have htx : ¬ t = x := fun e => hx (e ▸ List.mem_cons_self)
    obtain ⟨h1, h2, h3⟩ := popLoop_spec x B A (setA N t inf) (setA F t (getA [] F x))
      (fun h => hx (List.mem_cons_of_mem _ h))
    have hxt : ¬ x = t := fun e => htx e.symm
    simp only [List.cons_append, popLoop, htx, if_false, h1, h2, h3, getA_setA, List.mem_cons, hxt]
    exact ⟨trivial, fun u => by by_cases hu : u = t <;> simp [hu], fun u => by by_cases hu : u = t <;> simp [hu]⟩

theorem finish_pop {st : St} {x d : Nat} {A B : List Nat} (hS : st.S = A ++ x :: B) (hx : x ∉ A)
    (hd : st.n x = d) :
    (finish x d st).S = B ∧
    (∀ u, (finish x d st).n u = if u ∈ A ++ [x] then inf else st.n u) ∧
    (∀ u, (finish x d st).f u = if u ∈ A ++ [x] then st.f x else st.f u) := by
  obtain ⟨h1, h2, h3⟩ := popLoop_spec x B A (setA st.N x inf) st.F hx
  simp only [finish, hd, if_true, hS, h1, h2, h3, getA_setA, List.mem_append, List.mem_singleton]
  exact ⟨trivial, fun u => by by_cases hu : u = x <;> simp [hu, St.n], fun u => rfl⟩

theorem Reach.trans {R : List (Nat × Nat)} {x y z : Nat} (h1 : Reach R x y) (h2 : Reach R y z) :
    Reach R x z := by
  induction h1 with
  | refl _ => exact h2
  | head x y _ hxy _ ih => exact .head x y z hxy (ih h2)

theorem Reach.single {R : List (Nat × Nat)} {x y : Nat} (h : (x, y) ∈ R) : Reach R x y :=
  .head x y y h (.refl y)

/-! ## the rank of a node on the stack (1 = bottom), 0 for the nodes not on the stack -/

def rank : List Nat → Nat → Nat
  | [], _ => 0
  | t :: s, w => if t = w then s.length + 1 else rank s w

theorem rank_le_length (w : Nat) : ∀ (S : List Nat), rank S w ≤ S.length
  | [] => Nat.le_refl _
  | t :: s => by
    simp only [rank, List.length_cons]
    split
    · exact Nat.le_refl _
    · exact Nat.le_succ_of_le (rank_le_length w s)

theorem rank_pos_iff (w : Nat) : ∀ (S : List Nat), 0 < rank S w ↔ w ∈ S
  | [] => by simp [rank]
  | t :: s => by by_cases h : t = w <;> simp [rank, h, rank_pos_iff w s, Ne.symm]

theorem rank_append_of_not_mem (w : Nat) (B : List Nat) : ∀ (A : List Nat), w ∉ A →
    rank (A ++ B) w = rank B w
  | [], _ => rfl
  | t :: A, h => by
    have htw : ¬ t = w := fun e => h (e ▸ List.mem_cons_self)
    simp only [List.cons_append, rank, htw, if_false]
    exact rank_append_of_not_mem w B A (fun hm => h (List.mem_cons_of_mem _ hm))

theorem rank_append_of_mem (w : Nat) (B : List Nat) : ∀ (A : List Nat), w ∈ A →
    B.length < rank (A ++ B) w
  | t :: A, h => by
    simp only [List.cons_append, rank]
    split
    · simp only [List.length_append]; omega
    · rename_i htw
      exact rank_append_of_mem w B A ((List.mem_cons.mp h).resolve_left (Ne.symm htw))

theorem mem_of_rank_gt {w : Nat} {A B : List Nat} (h : B.length < rank (A ++ B) w) : w ∈ A :=
  Classical.byContradiction fun hm =>
    Nat.not_le_of_gt h (rank_append_of_not_mem w B A hm ▸ rank_le_length w B)

/-! ## totality: every call of `traverse` marks an unmarked node of the universe `U` -/

/-- marked nodes stay marked -/
def Mono (st st' : St) : Prop := ∀ u, st.n u ≠ 0 → st'.n u ≠ 0

theorem Mono.trans {a b c : St} (h1 : Mono a b) (h2 : Mono b c) : Mono a c :=
  fun u h => h2 u (h1 u h)

/-- the number of unmarked nodes of `U` (with multiplicity) -/
def whites (U : List Nat) (st : St) : Nat := (U.filter fun u => st.n u == 0).length

theorem whites_filter {st st' : St} (h : Mono st st') (U : List Nat) :
    whites U st' = ((U.filter fun u => st.n u == 0).filter fun u => st'.n u == 0).length := by
  rw [whites, List.filter_filter]
  refine congrArg _ (List.filter_congr fun u _ => ?_)
  by_cases h0 : st.n u = 0
  · simp [h0]
  · simp [h0, h u h0]

theorem whites_mono {st st' : St} (h : Mono st st') (U : List Nat) : whites U st' ≤ whites U st :=
  whites_filter h U ▸ List.length_filter_le _ _

theorem whites_lt {st st' : St} (h : Mono st st') {x : Nat} (h0 : st.n x = 0) (h1 : st'.n x ≠ 0)
    {U : List Nat} (hx : x ∈ U) : whites U st' < whites U st :=
  whites_filter h U ▸ List.length_filter_lt_length_iff_exists.mpr
    ⟨x, List.mem_filter.mpr ⟨hx, by simpa using h0⟩, by simpa using h1⟩

theorem setA_marked {N : List (Nat × Nat)} {k v u : Nat} (hv : v ≠ 0) (h : getA 0 N u ≠ 0) :
    getA 0 (setA N k v) u ≠ 0 := by
  rw [getA_setA]
  split
  · exact hv
  · exact h

theorem enter_mono (Fp : Nat → List Nat) (x : Nat) (st : St) : Mono st (enter Fp x st) :=
  fun _ h => setA_marked (Nat.succ_ne_zero _) h

theorem relax_mono (x y : Nat) (st : St) (hy : st.n y ≠ 0) : Mono st (relax x y st) := by
  intro u h
  rw [relax_n]
  split
  · rename_i hux
    rw [Nat.min_def]
    split
    · exact hux ▸ h
    · exact hy
  · exact h

theorem popLoop_mono (x : Nat) : ∀ (s : List Nat) (N : List (Nat × Nat)) (F : List (Nat × List Nat))
    (u : Nat), getA 0 N u ≠ 0 → (popLoop x s N F).n u ≠ 0
  | [], _, _, _, h => h
  | t :: s, N, F, u, h => by
    simp only [popLoop]
    split
    · exact setA_marked inf_ne_zero h
    · exact popLoop_mono x s _ _ u (setA_marked inf_ne_zero h)

theorem finish_mono (x d : Nat) (st : St) : Mono st (finish x d st) := by
  intro u h
  unfold finish
  split
  · exact popLoop_mono x st.S _ _ u (setA_marked inf_ne_zero h)
  · exact h

section total
variable {R : List (Nat × Nat)} {Fp : Nat → List Nat} {U : List Nat}

/-- with fuel above the number of unmarked nodes, `trav` returns and marks the node it is called on -/
def Total (U : List Nat) (fuel : Nat) (trav : Nat → St → Option St) : Prop :=
  ∀ y st, whites U st < fuel → y ∈ U → st.n y = 0 →
    ∃ st', trav y st = some st' ∧ Mono st st' ∧ st'.n y ≠ 0

theorem scan_total {fuel : Nat} {trav : Nat → St → Option St} {x : Nat} (htrav : Total U fuel trav) :
    ∀ (rs : List (Nat × Nat)) (st : St), (∀ e ∈ rs, e.2 ∈ U) → whites U st < fuel →
      ∃ st', scan trav x rs st = some st' ∧ Mono st st'
  | [], st, _, _ => ⟨st, rfl, fun _ h => h⟩
  | e :: rs, st, hU, hw => by
    have hrs : ∀ e' ∈ rs, e'.2 ∈ U := fun e' he' => hU e' (List.mem_cons_of_mem _ he')
    -- the state after the (possible) recursive call: the target is marked
    have hmid : ∃ st1, (if st.n e.2 = 0 then trav e.2 st else some st) = some st1 ∧ Mono st st1 ∧
        st1.n e.2 ≠ 0 := by
      split
      · rename_i hy; exact htrav e.2 st hw (hU e List.mem_cons_self) hy
      · rename_i hy; exact ⟨st, rfl, fun _ h => h, hy⟩
    simp only [scan]
    split
    · obtain ⟨st1, h1, hm1, hn1⟩ := hmid
      have hm := hm1.trans (relax_mono x e.2 st1 hn1)
      obtain ⟨st2, h2, hm2⟩ := scan_total htrav rs (relax x e.2 st1) hrs
        (Nat.lt_of_le_of_lt (whites_mono hm U) hw)
      exact ⟨st2, by rw [h1]; exact h2, hm.trans hm2⟩
    · exact scan_total htrav rs st hrs hw

theorem traverse_total (hR : ∀ e ∈ R, e.2 ∈ U) : ∀ fuel, Total U fuel (traverse R Fp fuel)
  | 0, _, _, h, _, _ => absurd h (Nat.not_lt_zero _)
  | fuel + 1, x, st, hw, hx, h0 => by
    have hme := enter_mono Fp x st
    have hne : (enter Fp x st).n x ≠ 0 := by simp
    obtain ⟨st2, h2, hm2⟩ := scan_total (x := x) (traverse_total hR fuel) R (enter Fp x st) hR
      (Nat.lt_of_lt_of_le (whites_lt hme h0 hne hx) (Nat.le_of_lt_succ hw))
    have hm := hm2.trans (finish_mono x (st.S.length + 1) st2)
    exact ⟨_, by simp only [traverse, h2], hme.trans hm, hm x hne⟩

theorem roots_total (hR : ∀ e ∈ R, e.2 ∈ U) (fuel : Nat) : ∀ (xs : List Nat) (st : St),
    (∀ x ∈ xs, x ∈ U) → whites U st < fuel → ∃ st', roots R Fp fuel xs st = some st'
  | [], st, _, _ => ⟨st, rfl⟩
  | x :: xs, st, hU, hw => by
    have hxs : ∀ x' ∈ xs, x' ∈ U := fun x' h => hU x' (List.mem_cons_of_mem _ h)
    simp only [roots]
    split
    · rename_i h0
      obtain ⟨st1, h1, hm1, _⟩ := traverse_total (Fp := Fp) hR fuel x st hw (hU x List.mem_cons_self) h0
      simp only [h1]
      exact roots_total hR fuel xs st1 hxs (Nat.lt_of_le_of_lt (whites_mono hm1 U) hw)
    · exact roots_total hR fuel xs st hxs hw

end total

/-- the universe of `digraph X R Fp`: the roots and the targets of the pairs -/
def univ (X : List Nat) (R : List (Nat × Nat)) : List Nat := X ++ R.map fun e => e.2

theorem univ_length (X : List Nat) (R : List (Nat × Nat)) : (univ X R).length = X.length + R.length := by
  simp [univ]

theorem mem_univ_left {X : List Nat} {R : List (Nat × Nat)} {x : Nat} (h : x ∈ X) : x ∈ univ X R :=
  List.mem_append_left _ h

theorem mem_univ_right {X : List Nat} {R : List (Nat × Nat)} : ∀ e ∈ R, e.2 ∈ univ X R :=
  fun e h => List.mem_append_right _ (List.mem_map.mpr ⟨e, h, rfl⟩)

theorem digraphSt_total (X : List Nat) (R : List (Nat × Nat)) (Fp : Nat → List Nat) :
    ∃ st, digraphSt X R Fp = some st :=
  roots_total (U := univ X R) mem_univ_right _ X _ (fun _ h => mem_univ_left h)
    (Nat.lt_succ_of_le (univ_length X R ▸ List.length_filter_le _ _))

section inv
variable (R : List (Nat × Nat)) (Fp : Nat → List Nat) (U : List Nat)

theorem Sol.of_reach {R : List (Nat × Nat)} {Fp : Nat → List Nat} {u w a : Nat} (h : Reach R u w)
    (hs : Sol R Fp w a) : Sol R Fp u a :=
  hs.elim fun v hv => ⟨v, h.trans hv.1, hv.2⟩

/-- what the traversal maintains about one node: it is on the stack iff `0 < N < MaxInt`; there
    `N u ≤ rank u`, `u` reaches a stack node of rank `≤ N u`, and `F u ⊇ Fp u`; `F u` is sound; a
    finished node has the whole least solution and only finished successors -/
structure Node (st : St) (u : Nat) : Prop where
  gray : u ∈ st.S ↔ st.n u ≠ 0 ∧ st.n u ≠ inf
  rankle : u ∈ st.S → st.n u ≤ rank st.S u
  low : u ∈ st.S → ∃ z, 0 < rank st.S z ∧ rank st.S z ≤ st.n u ∧ Reach R u z
  sound : ∀ a ∈ st.f u, Sol R Fp u a
  fp : u ∈ st.S → ∀ a ∈ Fp u, a ∈ st.f u
  black : st.n u = inf → (∀ a, Sol R Fp u a → a ∈ st.f u) ∧ ∀ w, (u, w) ∈ R → st.n w = inf

variable {R Fp} in
/-- a node keeps its invariant when the stack changes only above it (`A` is replaced by `A'`), its own
    `N` and `F` stay, and finished nodes stay finished -/
theorem Node.frame {st st' : St} {A A' B : List Nat} {u : Nat} (h : Node R Fp st u)
    (hS : st.S = A ++ B) (hS' : st'.S = A' ++ B) (hnd : st'.S.Nodup) (hA : u ∉ A) (hA' : u ∉ A')
    (hn : st'.n u = st.n u) (hf : st'.f u = st.f u) (hb : ∀ w, st.n w = inf → st'.n w = inf) :
    Node R Fp st' u := by
  have hmem : u ∈ st'.S ↔ u ∈ st.S := by simp [hS, hS', hA, hA']
  have hrank : rank st'.S u = rank st.S u := by
    rw [hS, hS', rank_append_of_not_mem u B A hA, rank_append_of_not_mem u B A' hA']
  refine ⟨by rw [hmem, hn]; exact h.gray, fun hu => by rw [hn, hrank]; exact h.rankle (hmem.mp hu),
    fun hu => ?_, by rw [hf]; exact h.sound, fun hu => by rw [hf]; exact h.fp (hmem.mp hu),
    fun hinf => ?_⟩
  · -- the witness `z` lies in `B`: its rank is at most `N u ≤ rank u ≤ |B|`
    obtain ⟨z, hz1, hz2, hz3⟩ := h.low (hmem.mp hu)
    have h2 := h.rankle (hmem.mp hu)
    rw [hS, rank_append_of_not_mem u B A hA] at h2
    have h3 := rank_le_length u B
    rw [hS] at hz1 hz2
    have hzA : z ∉ A := fun hz => by have := rank_append_of_mem z B A hz; omega
    rw [rank_append_of_not_mem z B A hzA] at hz1 hz2
    have hzA' : z ∉ A' := fun hz =>
      (List.nodup_append.mp (hS' ▸ hnd)).2.2 z hz z ((rank_pos_iff z B).mp hz1) rfl
    refine ⟨z, ?_, ?_, hz3⟩ <;> rw [hS', rank_append_of_not_mem z B A' hzA']
    · exact hz1
    · exact hn ▸ hz2
  · rw [hn] at hinf
    exact ⟨fun a ha => hf ▸ (h.black hinf).1 a ha, fun w hw => hb w ((h.black hinf).2 w hw)⟩

structure Inv (st : St) : Prop where
  small : U.length < inf
  nodup : st.S.Nodup
  inU : ∀ u ∈ st.S, u ∈ U
  node : ∀ u, Node R Fp st u

/-- the pair `(u, w)` has been accounted for: `w` is finished and `F w ⊆ F u`, or `w` is on the
    stack at a rank that `N u` does not exceed -/
def EdgeOK (st : St) (u w : Nat) : Prop :=
  (st.n w = inf ∧ ∀ a ∈ st.f w, a ∈ st.f u) ∨ st.n u ≤ rank st.S w

/-- `u` is a node of the component of `x` above `x` on the stack: its scan is complete and its `N`, `F`
    have been propagated to `x` -/
structure Done (st : St) (x u : Nat) : Prop where
  reach : Reach R u x
  n_le : st.n x ≤ st.n u
  f_sub : ∀ a ∈ st.f u, a ∈ st.f x
  edges : ∀ w, (u, w) ∈ R → EdgeOK st u w

/-- the nodes that were marked in `st` are untouched in `st'` -/
def Frame (st st' : St) : Prop := ∀ u, st.n u ≠ 0 → st'.n u = st.n u ∧ st'.f u = st.f u

/-- precondition of `traverse x`: the invariant, `x` is an unmarked node of the universe, and every node
    on the stack (the pending callers) reaches `x` -/
def Pre (st : St) (x : Nat) : Prop :=
  Inv R Fp U st ∧ st.n x = 0 ∧ x ∈ U ∧ ∀ b ∈ st.S, Reach R b x

/-- postcondition of `traverse x`: the invariant again; nodes marked before keep `N` and `F` (`Frame`); the
    stack is the old one with a segment `new` of `Done` nodes on top; and — the heart of the
    specification — EITHER the component of `x` has been popped (`new = []`, `x` finished) OR `x` stays on
    the stack with a low-link `N x` that points into the old stack (`≤` its length): `x` then belongs to
    the component of a caller, which will finish it -/
def Post (st : St) (x : Nat) (st' : St) : Prop :=
  Inv R Fp U st' ∧ Frame st st' ∧ ∃ new, st'.S = new ++ st.S ∧ (∀ u ∈ new, Done R st' x u) ∧
    ((new = [] ∧ st'.n x = inf) ∨ (x ∈ new ∧ st'.n x ≤ st.S.length))

/-- the loop invariant of the scan of `x` (entered from `st0`); `P w`: the pair `(x, w)` is done -/
def ScanI (st0 : St) (x : Nat) (P : Nat → Prop) (st : St) : Prop :=
  Inv R Fp U st ∧ Frame st0 st ∧ ∃ new, st.S = new ++ x :: st0.S ∧ (∀ u ∈ new, Done R st x u) ∧
    ∀ w, P w → EdgeOK st x w

variable {R Fp U}

theorem Inv.len_le {st : St} (h : Inv R Fp U st) : st.S.length ≤ U.length :=
  h.nodup.length_le_of_subset (fun u hu => h.inU u hu)

theorem Inv.n_le_len {st : St} (h : Inv R Fp U st) {u : Nat} (hu : u ∈ st.S) :
    st.n u ≤ st.S.length :=
  Nat.le_trans ((h.node u).rankle hu) (rank_le_length u st.S)

theorem Inv.n_ne_zero {st : St} (h : Inv R Fp U st) {u : Nat} (hu : u ∈ st.S) : st.n u ≠ 0 :=
  ((h.node u).gray.mp hu).1

theorem enter_spec {st0 : St} {x : Nat} (hpre : Pre R Fp U st0 x) :
    ScanI R Fp U st0 x (fun _ => False) (enter Fp x st0) := by
  obtain ⟨hI, hx0, hxU, hb⟩ := hpre
  have hxS : x ∉ st0.S := fun h => hI.n_ne_zero h hx0
  have hnd : (x :: st0.S).Nodup := List.nodup_cons.mpr ⟨hxS, hI.nodup⟩
  have hsub : ∀ u ∈ x :: st0.S, u ∈ U := List.forall_mem_cons.mpr ⟨hxU, hI.inU⟩
  have hlen : st0.S.length + 1 ≤ U.length := hnd.length_le_of_subset hsub
  have hsm := hI.small
  refine ⟨⟨hsm, hnd, hsub, fun u => ?_⟩, fun u hu => ?_, [], rfl, fun _ h => (nomatch h),
    fun _ h => h.elim⟩
  · by_cases hux : u = x
    · subst hux
      refine ⟨?_, ?_, ?_, ?_, ?_, ?_⟩ <;> simp only [enter_n, enter_f, enter_S, if_true]
      · exact ⟨fun _ => ⟨Nat.succ_ne_zero _, by omega⟩, fun _ => List.mem_cons_self⟩
      · simp [rank]
      · exact fun _ => ⟨u, by simp [rank], by simp [rank], .refl u⟩
      · exact fun a ha => ⟨u, .refl u, ha⟩
      · exact fun _ a ha => ha
      · exact fun e => by omega
    · refine (hI.node u).frame (A := []) (A' := [x]) rfl rfl hnd List.not_mem_nil (by simpa using hux)
        (by simp [hux]) (by simp [hux]) (fun w hw => ?_)
      have hwx : w ≠ x := fun e => inf_ne_zero (hw.symm.trans (e ▸ hx0))
      simp [hwx, hw]
  · have hux : u ≠ x := fun e => hu (e ▸ hx0)
    simp [hux]

/-- the state after the (possible) recursive call for the pair `(x, y)`, before
    `N[x] = min(N[x], N[y]); F[x] = Union(F[y], F[x])`: the nodes above `x` answer to `x` or to `y` -/
def Mid (R : List (Nat × Nat)) (Fp : Nat → List Nat) (U : List Nat) (st0 : St) (x y : Nat)
    (P : Nat → Prop) (st : St) : Prop :=
  Inv R Fp U st ∧ Frame st0 st ∧ st.n y ≠ 0 ∧ ∃ new, st.S = new ++ x :: st0.S ∧
    (∀ u ∈ new, Reach R u x ∧ (∀ w, (u, w) ∈ R → EdgeOK st u w) ∧
      ((st.n x ≤ st.n u ∧ ∀ a ∈ st.f u, a ∈ st.f x) ∨
       (st.n y ≤ st.n u ∧ ∀ a ∈ st.f u, a ∈ st.f y))) ∧
    ∀ w, P w → EdgeOK st x w

theorem edgeOK_relax_other {st : St} {x y u w : Nat} (hux : u ≠ x) (hxinf : st.n x ≠ inf)
    (h : EdgeOK st u w) : EdgeOK (relax x y st) u w := by
  rcases h with ⟨h1, h2⟩ | h
  · have hwx : w ≠ x := fun e => hxinf (e ▸ h1)
    exact Or.inl (by simpa [hwx, hux] using And.intro h1 h2)
  · exact Or.inr (by simpa [hux] using h)

theorem relax_spec {st0 st : St} {x y : Nat} {P : Nat → Prop} (hxy : (x, y) ∈ R)
    (hx0 : st0.n x = 0) (hm : Mid R Fp U st0 x y P st) :
    ScanI R Fp U st0 x (fun w => P w ∨ w = y) (relax x y st) := by
  obtain ⟨hI, hF, hy0, new, hS, hseg, hP⟩ := hm
  have hxS : x ∈ st.S := by simp [hS]
  have hxnew : x ∉ new := fun h =>
    (List.nodup_append.mp (hS ▸ hI.nodup)).2.2 x h x List.mem_cons_self rfl
  have hx := hI.node x
  have hxg := hx.gray.mp hxS
  have hxlen := hI.n_le_len hxS
  have hlen := hI.len_le
  have hsm := hI.small
  have hmx : min (st.n x) (st.n y) ≤ st.n x := Nat.min_le_left _ _
  have hmy : min (st.n x) (st.n y) ≤ st.n y := Nat.min_le_right _ _
  refine ⟨⟨hsm, hI.nodup, hI.inU, fun u => ?_⟩, fun u hu => ?_, new, hS, fun u hu => ?_, fun w hw => ?_⟩
  · by_cases hux : u = x
    · subst hux
      refine ⟨?_, ?_, ?_, ?_, ?_, ?_⟩ <;> simp only [relax_n, relax_f, relax_S, if_true]
      · refine ⟨fun _ => ⟨?_, fun e => by omega⟩, fun _ => hxS⟩
        rw [Nat.min_def]; split
        · exact hxg.1
        · exact hy0
      · exact fun _ => Nat.le_trans hmx (hx.rankle hxS)
      · intro _
        rw [Nat.min_def]; split
        · exact hx.low hxS
        · -- `N y < N u`: `y` is on the stack, and what `y` reaches `u` reaches
          obtain ⟨z, hz1, hz2, hz3⟩ := (hI.node y).low ((hI.node y).gray.mpr ⟨hy0, fun e => by omega⟩)
          exact ⟨z, hz1, hz2, .head u y z hxy hz3⟩
      · intro a ha
        rcases mem_union.mp ha with ha | ha
        · exact .step hxy ((hI.node y).sound a ha)
        · exact hx.sound a ha
      · exact fun _ a ha => mem_union.mpr (Or.inr (hx.fp hxS a ha))
      · exact fun e => by omega
    · refine (hI.node u).frame (A := []) (A' := []) rfl rfl hI.nodup List.not_mem_nil List.not_mem_nil
        (by simp [hux]) (by simp [hux]) (fun w hw => ?_)
      have hwx : w ≠ x := fun e => hxg.2 (e ▸ hw)
      simp [hwx, hw]
  · have hux : u ≠ x := fun e => hu (e ▸ hx0)
    simpa [hux] using hF u hu
  · have hux : u ≠ x := fun e => hxnew (e ▸ hu)
    obtain ⟨h1, h3, h4⟩ := hseg u hu
    refine ⟨h1, ?_, ?_, fun w hw => edgeOK_relax_other hux hxg.2 (h3 w hw)⟩ <;>
      simp only [relax_n, relax_f, hux, if_true, if_false]
    · rcases h4 with ⟨h, _⟩ | ⟨h, _⟩
      · exact Nat.le_trans hmx h
      · exact Nat.le_trans hmy h
    · intro a ha
      rcases h4 with ⟨_, h⟩ | ⟨_, h⟩
      · exact mem_union.mpr (Or.inr (h a ha))
      · exact mem_union.mpr (Or.inl (h a ha))
  · -- the pair `(x, w)`: done before, or `w = y`
    have hfin : ∀ {w}, st.n w = inf → (∀ a ∈ st.f w, a ∈ st.f y ∨ a ∈ st.f x) →
        EdgeOK (relax x y st) x w := fun {w} h1 h2 => by
      have hwx : w ≠ x := fun e => hxg.2 (e ▸ h1)
      exact Or.inl (by simpa [hwx, mem_union] using And.intro h1 h2)
    rcases hw with hw | rfl
    · rcases hP w hw with ⟨h1, h2⟩ | h
      · exact hfin h1 (fun a ha => Or.inr (h2 a ha))
      · exact Or.inr (by simpa using Nat.le_trans hmx h)
    · by_cases hyinf : st.n w = inf
      · exact hfin hyinf (fun a ha => Or.inl ha)
      · have := (hI.node w).rankle ((hI.node w).gray.mpr ⟨hy0, hyinf⟩)
        exact Or.inr (by simpa using Nat.le_trans hmy this)

theorem mid_of_nocall {st0 st : St} {x y : Nat} {P : Nat → Prop} (hs : ScanI R Fp U st0 x P st)
    (hy : st.n y ≠ 0) : Mid R Fp U st0 x y P st := by
  obtain ⟨hI, hF, new, hS, hseg, hP⟩ := hs
  exact ⟨hI, hF, hy, new, hS, fun u hu => ⟨(hseg u hu).reach, (hseg u hu).edges,
    Or.inl ⟨(hseg u hu).n_le, (hseg u hu).f_sub⟩⟩, hP⟩

theorem edgeOK_frame {st st' : St} {A : List Nat} {u w : Nat} (hF : Frame st st')
    (hS : st'.S = A ++ st.S) (hnd : st'.S.Nodup) (hu : st.n u ≠ 0) (h : EdgeOK st u w) :
    EdgeOK st' u w := by
  rcases h with ⟨h1, h2⟩ | h
  · have hw0 : st.n w ≠ 0 := fun e => inf_ne_zero (h1 ▸ e)
    exact Or.inl ⟨(hF w hw0).1.trans h1, by rw [(hF w hw0).2, (hF u hu).2]; exact h2⟩
  · refine Or.inr ?_
    have hwS : w ∈ st.S := (rank_pos_iff w st.S).mp (by omega)
    have hwA : w ∉ A := fun hA => (List.nodup_append.mp (hS ▸ hnd)).2.2 w hA w hwS rfl
    rw [(hF u hu).1, hS, rank_append_of_not_mem w st.S A hwA]; exact h

theorem ScanI.imp {st0 st : St} {x : Nat} {P Q : Nat → Prop} (h : ∀ w, Q w → P w)
    (hs : ScanI R Fp U st0 x P st) : ScanI R Fp U st0 x Q st := by
  obtain ⟨hI, hF, new, hS, hseg, hP⟩ := hs
  exact ⟨hI, hF, new, hS, hseg, fun w hw => hP w (h w hw)⟩

theorem ScanI.reach {st0 st : St} {x : Nat} {P : Nat → Prop} (hs : ScanI R Fp U st0 x P st)
    (hb : ∀ b ∈ st0.S, Reach R b x) : ∀ z ∈ st.S, Reach R z x := by
  obtain ⟨hI, hF, new, hS, hseg, hP⟩ := hs
  intro z hz
  rw [hS] at hz
  rcases List.mem_append.mp hz with h | h
  · exact (hseg z h).reach
  · rcases List.mem_cons.mp h with e | e
    · exact e ▸ .refl z
    · exact hb z e

theorem mid_of_call {st0 st st' : St} {x y : Nat} {P : Nat → Prop}
    (hs : ScanI R Fp U st0 x P st) (hpost : Post R Fp U st y st')
    (hb : ∀ b ∈ st0.S, Reach R b x) : Mid R Fp U st0 x y P st' := by
  have hallx := hs.reach hb
  obtain ⟨hI, hF, new, hS, hseg, hP⟩ := hs
  obtain ⟨hI', hF', newy, hS', hsegy, hcase⟩ := hpost
  have hx0 : st.n x ≠ 0 := hI.n_ne_zero (by simp [hS])
  have hy0 : st'.n y ≠ 0 := by
    rcases hcase with ⟨_, e⟩ | ⟨hy, _⟩
    · exact e ▸ inf_ne_zero
    · exact hI'.n_ne_zero (by simp [hS', hy])
  refine ⟨hI', fun u hu => ?_, hy0, newy ++ new, by rw [hS', hS, List.append_assoc], fun u hu => ?_,
    fun w hw => edgeOK_frame hF' hS' hI'.nodup hx0 (hP w hw)⟩
  · have h1 := hF u hu
    have h2 := hF' u (h1.1 ▸ hu)
    exact ⟨h2.1.trans h1.1, h2.2.trans h1.2⟩
  · rcases List.mem_append.mp hu with hu | hu
    · -- `y` stayed on the stack: it reaches a node below it, which reaches `x`
      have hyx : Reach R y x := by
        rcases hcase with ⟨e, _⟩ | ⟨hy, hle⟩
        · rw [e] at hu; cases hu
        · obtain ⟨z, hz1, hz2, hz3⟩ := (hI'.node y).low (by simp [hS', hy])
          rw [hS'] at hz1 hz2
          have hzn : z ∉ newy := fun hz => by have := rank_append_of_mem z st.S newy hz; omega
          rw [rank_append_of_not_mem z st.S newy hzn] at hz1
          exact hz3.trans (hallx z ((rank_pos_iff z st.S).mp hz1))
      exact ⟨(hsegy u hu).reach.trans hyx, (hsegy u hu).edges,
        Or.inr ⟨(hsegy u hu).n_le, (hsegy u hu).f_sub⟩⟩
    · have hu0 : st.n u ≠ 0 := hI.n_ne_zero (by simp [hS, hu])
      refine ⟨(hseg u hu).reach, fun w hw => edgeOK_frame hF' hS' hI'.nodup hu0 ((hseg u hu).edges w hw),
        Or.inl ⟨?_, ?_⟩⟩
      · rw [(hF' u hu0).1, (hF' x hx0).1]; exact (hseg u hu).n_le
      · rw [(hF' u hu0).2, (hF' x hx0).2]; exact (hseg u hu).f_sub

theorem scan_spec {trav : Nat → St → Option St} {st0 : St} {x : Nat}
    (htrav : ∀ y st st', trav y st = some st' → Pre R Fp U st y → Post R Fp U st y st')
    (hx0 : st0.n x = 0) (hb : ∀ b ∈ st0.S, Reach R b x) (hRU : ∀ e ∈ R, e.2 ∈ U) :
    ∀ (rs : List (Nat × Nat)) (st st' : St) (P : Nat → Prop), (∀ e ∈ rs, e ∈ R) →
      ScanI R Fp U st0 x P st → scan trav x rs st = some st' →
      ScanI R Fp U st0 x (fun w => P w ∨ (x, w) ∈ rs) st'
  | [], st, st', P, _, hs, h => by
    cases h
    exact hs.imp (fun w hw => hw.elim id (fun h => nomatch h))
  | e :: rs, st, st', P, hsub, hs, h => by
    have hrs : ∀ e' ∈ rs, e' ∈ R := fun e' he' => hsub e' (List.mem_cons_of_mem _ he')
    simp only [scan] at h
    split at h
    · rename_i hex
      have heR : (x, e.2) ∈ R := hex ▸ hsub e List.mem_cons_self
      have hmid : ∃ st1, (if st.n e.2 = 0 then trav e.2 st else some st) = some st1 ∧
          Mid R Fp U st0 x e.2 P st1 := by
        split
        · rename_i hy
          cases ht : trav e.2 st with
          | none => simp [hy, ht] at h
          | some st1 =>
            exact ⟨st1, rfl, mid_of_call hs (htrav _ _ _ ht ⟨hs.1, hy, hRU (x, e.2) heR,
              fun b hb' => (hs.reach hb b hb').trans (Reach.single heR)⟩) hb⟩
        · rename_i hy; exact ⟨st, rfl, mid_of_nocall hs hy⟩
      obtain ⟨st1, h1, hm⟩ := hmid
      rw [h1] at h
      refine (scan_spec htrav hx0 hb hRU rs _ st' _ hrs (relax_spec heR hx0 hm) h).imp ?_
      rintro w (hw | hw)
      · exact Or.inl (Or.inl hw)
      · rcases List.mem_cons.mp hw with e' | e'
        · exact Or.inl (Or.inr (by rw [← e']))
        · exact Or.inr e'
    · rename_i hex
      refine (scan_spec htrav hx0 hb hRU rs st st' P hrs hs h).imp ?_
      rintro w (hw | hw)
      · exact Or.inl hw
      · rcases List.mem_cons.mp hw with e' | e'
        · exact absurd (by rw [← e']) hex
        · exact Or.inr e'

theorem finish_spec {st0 st : St} {x : Nat} {P : Nat → Prop} (hpre : Pre R Fp U st0 x)
    (hs : ScanI R Fp U st0 x P st) (hall : ∀ w, (x, w) ∈ R → P w) :
    Post R Fp U st0 x (finish x (st0.S.length + 1) st) := by
  obtain ⟨hI0, hx0, _, _⟩ := hpre
  obtain ⟨hI, hF, new, hS, hseg, hP⟩ := hs
  -- the segment to be popped (or kept): `A = new ++ [x]`
  have hSA : st.S = (new ++ [x]) ++ st0.S := by simp [hS]
  have hdisj := (List.nodup_append.mp (hSA ▸ hI.nodup)).2.2
  have hxA : x ∈ new ++ [x] := by simp
  have hAS : ∀ u ∈ new ++ [x], u ∈ st.S := fun u hu => by rw [hSA]; exact List.mem_append_left _ hu
  have hsegA : ∀ u ∈ new ++ [x], Done R st x u := by
    intro u hu
    rcases List.mem_append.mp hu with h | h
    · exact hseg u h
    · rw [List.mem_singleton.mp h]
      exact ⟨.refl x, Nat.le_refl _, fun a ha => ha, fun w hw => hP w (hall w hw)⟩
  have hxnew : x ∉ new := fun h =>
    (List.nodup_append.mp (hS ▸ hI.nodup)).2.2 x h x List.mem_cons_self rfl
  have hrx : rank st.S x = st0.S.length + 1 := by
    rw [hS, rank_append_of_not_mem x _ new hxnew]; simp [rank]
  by_cases hd : st.n x = st0.S.length + 1
  · obtain ⟨hS', hn', hf'⟩ := finish_pop hS hxnew hd
    generalize finish x (st0.S.length + 1) st = st' at hS' hn' hf'
    have hn_in : ∀ u ∈ new ++ [x], st'.n u = inf := fun u hu => by rw [hn' u, if_pos hu]
    have hn_out : ∀ u, u ∉ new ++ [x] → st'.n u = st.n u := fun u hu => by rw [hn' u, if_neg hu]
    have hf_out : ∀ u, u ∉ new ++ [x] → st'.f u = st.f u := fun u hu => by rw [hf' u, if_neg hu]
    have hinf : ∀ w, st.n w = inf → st'.n w = inf := fun w hw => by
      rw [hn' w]; split
      · rfl
      · exact hw
    have hbig : ∀ u ∈ new ++ [x], st0.S.length + 1 ≤ st.n u := fun u hu => hd ▸ (hsegA u hu).n_le
    -- a pair out of the segment leads to a finished node or back into the segment
    have hedge : ∀ u ∈ new ++ [x], ∀ w, (u, w) ∈ R →
        (st.n w = inf ∧ ∀ a ∈ st.f w, a ∈ st.f x) ∨ w ∈ new ++ [x] := by
      intro u hu w hw
      rcases (hsegA u hu).edges w hw with ⟨h1, h2⟩ | h
      · exact Or.inl ⟨h1, fun a ha => (hsegA u hu).f_sub a (h2 a ha)⟩
      · have := hbig u hu
        exact Or.inr (mem_of_rank_gt (B := st0.S) (by rw [← hSA]; omega))
    -- everything reachable from the segment has been absorbed by `F x`
    have hclos : ∀ u v, Reach R u v → u ∈ new ++ [x] → ∀ a ∈ Fp v, a ∈ st.f x := by
      intro u v huv
      induction huv with
      | refl u => exact fun hu a ha => (hsegA u hu).f_sub a ((hI.node u).fp (hAS u hu) a ha)
      | head u w v huw hwv ih =>
        intro hu a ha
        rcases hedge u hu w huw with ⟨h1, h2⟩ | h
        · exact h2 a (((hI.node w).black h1).1 a ⟨v, hwv, ha⟩)
        · exact ih h a ha
    have hout : ∀ u, st0.n u ≠ 0 → u ∉ new ++ [x] := fun u hu hA => by
      have h2 := (hI.node u).gray.mp (hAS u hA)
      rw [(hF u hu).1] at h2
      exact hdisj u hA u ((hI0.node u).gray.mpr h2) rfl
    refine ⟨⟨hI.small, hS' ▸ (List.nodup_append.mp (hSA ▸ hI.nodup)).2.1,
      fun u hu => hI.inU u (by rw [hSA, ← hS']; exact List.mem_append_right _ hu), fun u => ?_⟩,
      fun u hu => ?_, [], by rw [hS']; rfl, fun u hu => (nomatch hu), Or.inl ⟨rfl, hn_in x hxA⟩⟩
    · by_cases hu : u ∈ new ++ [x]
      · have huS' : u ∉ st'.S := fun h => hdisj u hu u (hS' ▸ h) rfl
        refine ⟨⟨fun h => absurd h huS', fun h => absurd (hn_in u hu) h.2⟩, fun h => absurd h huS',
          fun h => absurd h huS', fun a ha => ?_, fun h => absurd h huS', fun _ => ⟨fun a ha => ?_,
          fun w hw => ?_⟩⟩
        · rw [hf' u, if_pos hu] at ha
          exact Sol.of_reach (hsegA u hu).reach ((hI.node x).sound a ha)
        · obtain ⟨v, hv, hav⟩ := ha
          rw [hf' u, if_pos hu]; exact hclos u v hv hu a hav
        · rcases hedge u hu w hw with ⟨h1, _⟩ | h
          · exact hinf w h1
          · exact hn_in w h
      · exact (hI.node u).frame (A' := []) hSA hS' (hS' ▸ (List.nodup_append.mp (hSA ▸ hI.nodup)).2.1) hu
          List.not_mem_nil (hn_out u hu) (hf_out u hu) hinf
    · rw [hn_out u (hout u hu), hf_out u (hout u hu)]; exact hF u hu
  · rw [show finish x (st0.S.length + 1) st = st by simp [finish, hd]]
    refine ⟨hI, hF, new ++ [x], hSA, hsegA, Or.inr ⟨hxA, ?_⟩⟩
    have := (hI.node x).rankle (hAS x hxA)
    omega

theorem traverse_spec (hRU : ∀ e ∈ R, e.2 ∈ U) : ∀ (fuel x : Nat) (st st' : St),
    traverse R Fp fuel x st = some st' → Pre R Fp U st x → Post R Fp U st x st'
  | 0, _, _, _, h, _ => nomatch h
  | fuel + 1, x, st, st', h, hpre => by
    simp only [traverse] at h
    split at h
    · cases h
    · rename_i st2 hsc
      cases h
      exact finish_spec hpre (scan_spec (traverse_spec hRU fuel) hpre.2.1 hpre.2.2.2 hRU R _ st2 _
        (fun e he => he) (enter_spec hpre) hsc) (fun w hw => Or.inr hw)

theorem Frame.mono {st st' : St} (h : Frame st st') : Mono st st' :=
  fun u hu => (h u hu).1 ▸ hu

theorem roots_spec (hRU : ∀ e ∈ R, e.2 ∈ U) (fuel : Nat) : ∀ (xs : List Nat) (st st' : St),
    roots R Fp fuel xs st = some st' → Inv R Fp U st → st.S = [] → (∀ x ∈ xs, x ∈ U) →
    Inv R Fp U st' ∧ st'.S = [] ∧ Mono st st' ∧ ∀ x ∈ xs, st'.n x ≠ 0
  | [], st, st', h, hI, hS, _ => by
    cases h
    exact ⟨hI, hS, fun _ h => h, fun x hx => (nomatch hx)⟩
  | x :: xs, st, st', h, hI, hS, hXU => by
    have hxs : ∀ x' ∈ xs, x' ∈ U := fun x' h => hXU x' (List.mem_cons_of_mem _ h)
    simp only [roots] at h
    -- the state after the (possible) traversal of `x`: empty stack again, `x` marked
    have hmid : ∃ st1, roots R Fp fuel xs st1 = some st' ∧ Inv R Fp U st1 ∧ st1.S = [] ∧
        Mono st st1 ∧ st1.n x ≠ 0 := by
      split at h
      · rename_i h0
        cases ht : traverse R Fp fuel x st with
        | none => rw [ht] at h; cases h
        | some st1 =>
          rw [ht] at h
          obtain ⟨hI1, hF1, new, hS1, _, hcase⟩ := traverse_spec hRU fuel x st st1 ht
            ⟨hI, h0, hXU x List.mem_cons_self, fun b hb => by rw [hS] at hb; cases hb⟩
          rcases hcase with ⟨hn, hinf⟩ | ⟨hx, hle⟩
          · exact ⟨st1, h, hI1, by rw [hS1, hn, hS]; rfl, hF1.mono, hinf ▸ inf_ne_zero⟩
          · rw [hS] at hle
            exact absurd (Nat.le_zero.mp hle) (hI1.n_ne_zero (by simp [hS1, hx]))
      · rename_i h0; exact ⟨st, h, hI, hS, fun _ h => h, h0⟩
    obtain ⟨st1, h1, hI1, hS1, hm1, hx1⟩ := hmid
    obtain ⟨hI', hS', hm, hall⟩ := roots_spec hRU fuel xs st1 st' h1 hI1 hS1 hxs
    exact ⟨hI', hS', hm1.trans hm, List.forall_mem_cons.mpr ⟨hm x hx1, hall⟩⟩

theorem inv_init (hU : U.length < inf) : Inv R Fp U { N := [], S := [], F := [] } :=
  ⟨hU, List.nodup_nil, fun _ hu => (nomatch hu), fun _ => ⟨⟨fun hu => (nomatch hu), fun h => absurd rfl h.1⟩,
    fun hu => (nomatch hu), fun hu => (nomatch hu), fun _ ha => (nomatch ha), fun hu => (nomatch hu),
    fun hu => absurd hu.symm inf_ne_zero⟩⟩

end inv

theorem digraphSt_spec {X : List Nat} {R : List (Nat × Nat)} {Fp : Nat → List Nat} {st : St}
    (hlen : X.length + R.length < inf) (h : digraphSt X R Fp = some st) :
    (∀ u a, a ∈ st.f u → Sol R Fp u a) ∧
    (∀ x ∈ X, ∀ u, Reach R x u → ∀ a, Sol R Fp u a → a ∈ st.f u) := by
  obtain ⟨hI, hS, _, hall⟩ := roots_spec (U := univ X R) mem_univ_right _ X _ st h
    (inv_init (univ_length X R ▸ hlen)) rfl (fun x hx => mem_univ_left hx)
  have hblack : ∀ u, st.n u ≠ 0 → st.n u = inf := fun u hu =>
    Classical.byContradiction fun hne => by
      have := (hI.node u).gray.mpr ⟨hu, hne⟩
      rw [hS] at this; cases this
  have hreach : ∀ x u, Reach R x u → st.n x = inf → st.n u = inf := by
    intro x u hxu
    induction hxu with
    | refl _ => exact id
    | head x y z hxy _ ih => exact fun hx' => ih (((hI.node x).black hx').2 y hxy)
  exact ⟨fun u => (hI.node u).sound, fun x hx u hxu =>
    ((hI.node u).black (hreach x u hxu (hblack x (hall x hx)))).1⟩

theorem digraph_total (X : List Nat) (R : List (Nat × Nat)) (Fp : Nat → List Nat) :
    ∃ F, digraph X R Fp = some F := by
  obtain ⟨st, hst⟩ := digraphSt_total X R Fp
  exact ⟨st.f, by unfold digraph; rw [hst]; rfl⟩

theorem digraph_some {X : List Nat} {R : List (Nat × Nat)} {Fp F : Nat → List Nat}
    (h : digraph X R Fp = some F) : ∃ st, digraphSt X R Fp = some st ∧ F = st.f := by
  obtain ⟨st, hst, e⟩ := Option.map_eq_some_iff.mp h
  exact ⟨st, hst, e.symm⟩

theorem digraph_sound {X : List Nat} {R : List (Nat × Nat)} {Fp F : Nat → List Nat}
    (hlen : X.length + R.length < inf) (h : digraph X R Fp = some F) (u a : Nat)
    (ha : a ∈ F u) : ∃ y, Reach R u y ∧ a ∈ Fp y := by
  obtain ⟨st, hst, rfl⟩ := digraph_some h
  exact (digraphSt_spec hlen hst).1 u a ha

theorem digraph_least_reach {X : List Nat} {R : List (Nat × Nat)} {Fp F : Nat → List Nat}
    (hlen : X.length + R.length < inf) (h : digraph X R Fp = some F)
    {x : Nat} (hx : x ∈ X) {u : Nat} (hu : Reach R x u) (a : Nat) :
    a ∈ F u ↔ ∃ y, Reach R u y ∧ a ∈ Fp y := by
  obtain ⟨st, hst, rfl⟩ := digraph_some h
  exact ⟨(digraphSt_spec hlen hst).1 u a, (digraphSt_spec hlen hst).2 x hx u hu a⟩

theorem digraph_least {X : List Nat} {R : List (Nat × Nat)} {Fp F : Nat → List Nat}
    (hlen : X.length + R.length < inf) (h : digraph X R Fp = some F)
    {x : Nat} (hx : x ∈ X) (a : Nat) : a ∈ F x ↔ ∃ y, Reach R x y ∧ a ∈ Fp y :=
  digraph_least_reach hlen h hx (.refl x) a

theorem digraph_exact {X : List Nat} {R : List (Nat × Nat)} {Fp F : Nat → List Nat}
    (hlen : X.length + R.length < inf) (h : digraph X R Fp = some F)
    (hX : ∀ i a, Sol R Fp i a → i ∈ X) (i a : Nat) : a ∈ F i ↔ Sol R Fp i a :=
  ⟨digraph_sound hlen h i a, fun hs => (digraph_least hlen h (hX i a hs) a).mpr hs⟩

end Y.DG

/-! ## `Digraph` at the three call sites of `LALR.go`, against the least solutions of `Y.DP`

(namespace `Y.DGP`: the model `Y.DG` of `Digraph` on the relations of `Y.DP`) -/
namespace Y.DGP
open Y Y.DP

theorem Sol.congr {R : List (Nat × Nat)} {Fp Fp' : Nat → List Nat}
    (h : ∀ i a, a ∈ Fp i ↔ a ∈ Fp' i) (u a : Nat) : Sol R Fp u a ↔ Sol R Fp' u a :=
  exists_congr fun v => and_congr_right fun _ => h v a

section sites
variable {G : Grammar} {A : Auto} {nl : List Sym} {ts : List Tr}

theorem mem_keysOf {i : Nat} : i ∈ DG.keysOf G ts ↔ ∃ t, ts[i]? = some t ∧ isKey G i t = true := by
  simp only [DG.keysOf, List.mem_filterMap, Prod.exists, List.mem_zipIdx_iff_getElem?,
    Option.ite_none_right_eq_some, Option.some.injEq]
  exact ⟨fun ⟨t, _, hi, hk, e⟩ => ⟨t, e ▸ hi, e ▸ hk⟩, fun ⟨t, hi, hk⟩ => ⟨t, i, hi, hk, rfl⟩⟩

theorem mem_redsOf {x : Nat} : x ∈ DG.redsOf ts ↔ ∃ t r, ts[x]? = some t ∧ t.kind = .rule r := by
  simp only [DG.redsOf, List.mem_filterMap, Prod.exists, List.mem_zipIdx_iff_getElem?]
  constructor
  · rintro ⟨t, _, hx, he⟩
    split at he
    · cases he
    · rename_i r hk; cases he; exact ⟨t, r, hx, hk⟩
  · rintro ⟨t, r, hx, hk⟩
    exact ⟨t, x, hx, by simp [hk]⟩

theorem mem_getD_tabulate {n : Nat} {F : Nat → List Sym} {i : Nat} {a : Sym} :
    a ∈ (DG.tabulate n F).getD i [] ↔ i < n ∧ a ∈ F i := by
  rw [DG.tabulate, getD_map_range]
  split <;> simp [*]

theorem sol_reads_key {i : Nat} {a : Sym} (h : Sol (readsRel G nl ts) ((dr G ts).getD · []) i a) :
    ∃ t, ts[i]? = some t ∧ isKey G i t = true := by
  obtain ⟨y, hy, ha⟩ := h
  cases hy with
  | refl _ =>
    rcases mem_dr.mp ha with ⟨t, hi, hd⟩ | ⟨rfl, hne, _⟩
    · exact ⟨t, hi, by simp [isKey, (mem_drOf.mp hd).1]⟩
    · cases ts with
      | nil => exact absurd rfl hne
      | cons t _ => exact ⟨t, rfl, by simp [isKey]⟩
  | head _ j _ hij _ =>
    obtain ⟨t, _, hi, _, hk, _⟩ := mem_readsRel.mp hij
    exact ⟨t, hi, hk⟩

theorem sol_includes_key {rd : Nat → List Sym}
    (hrd : ∀ i a, a ∈ rd i → ∃ t, ts[i]? = some t ∧ isKey G i t = true) {i : Nat} {a : Sym}
    (h : Sol (includesRel G A nl ts) rd i a) : ∃ t, ts[i]? = some t ∧ isKey G i t = true := by
  obtain ⟨y, hy, ha⟩ := h
  cases hy with
  | refl _ => exact hrd i a ha
  | head _ j _ hij _ =>
    obtain ⟨t, _, hi, hk, _⟩ := mem_includesRel.mp hij
    exact ⟨t, hi, hk⟩

/-- stage 3 (`CalcLookAheadSet`): a reduce transition `x` whose own entry in `FollowSet` is empty
    gets the union of the `Follow` sets it looks back to -/
theorem dg_la_iff {fo la : Nat → List Sym}
    (hsz : (DG.redsOf ts).length + (lookbackRel G A ts).length < DG.inf)
    (hd : DG.digraph (DG.redsOf ts) (lookbackRel G A ts) fo = some la)
    {x : Nat} {t : Tr} {r : Nat} (hx : ts[x]? = some t) (hk : t.kind = .rule r)
    (hempty : ∀ a, a ∉ fo x) (a : Sym) :
    a ∈ la x ↔ ∃ y, (x, y) ∈ lookbackRel G A ts ∧ a ∈ fo y := by
  rw [DG.digraph_least hsz hd (mem_redsOf.mpr ⟨t, r, hx, hk⟩) a]
  constructor
  · rintro ⟨y, hy, ha⟩
    cases hy with
    | refl _ => exact absurd ha (hempty a)
    | head _ y1 _ h1 h2 =>
      cases h2 with
      | refl _ => exact ⟨_, h1, ha⟩
      | head _ z _ h3 _ =>
        -- `lookback` leads from reduce transitions to keys: no pair starts at `y1`
        obtain ⟨_, _, _, _, hy1⟩ := mem_lookbackRel.mp h1
        obtain ⟨u, hu, _, hku, _⟩ := mem_lookbackTo.mp hy1
        obtain ⟨t', r', hu', hk', _⟩ := mem_lookbackRel.mp h3
        cases hu.symm.trans hu'
        cases hku.symm.trans hk'
  · rintro ⟨y, hy, ha⟩
    exact ⟨y, DG.Reach.single hy, ha⟩

theorem laOf_congr {lb : List (Nat × Nat)} {f1 f2 : List (List Sym)}
    (h : ∀ i a, a ∈ f1.getD i [] ↔ a ∈ f2.getD i []) (x : Nat) (t : Tr) (a : Sym) :
    a ∈ laOf lb f1 x t ↔ a ∈ laOf lb f2 x t := by
  cases hk : t.kind with
  | sym X => simp [laOf, hk]
  | rule r =>
    by_cases hr : r = 0
    · simp [laOf, hk, hr]
    · rw [mem_laOf_raw hk hr, mem_laOf_raw hk hr]
      exact exists_congr fun y => and_congr_right fun _ => h y a

theorem stagesDG_some {sd : Stages} (h : DG.stagesDG G A nl = some sd) : ∃ rd fo la,
    DG.digraph (DG.keysOf G (trans G A)) (readsRel G nl (trans G A))
      (fun i => (dr G (trans G A)).getD i []) = some rd ∧
    DG.digraph (DG.keysOf G (trans G A)) (includesRel G A nl (trans G A)) rd = some fo ∧
    DG.digraph (DG.redsOf (trans G A)) (lookbackRel G A (trans G A)) fo = some la ∧
    sd = { trans := trans G A, dr := dr G (trans G A), reads := readsRel G nl (trans G A),
           read := DG.tabulate (trans G A).length rd,
           includes := includesRel G A nl (trans G A),
           follow := DG.tabulate (trans G A).length fo,
           lookback := lookbackRel G A (trans G A),
           la := (trans G A).zipIdx.map fun tx => DG.laOfDG la tx.2 tx.1 } := by
  unfold DG.stagesDG at h
  split at h
  · cases h
  · rename_i rd hrd
    split at h
    · cases h
    · rename_i fo hfo
      split at h
      · cases h
      · rename_i la hla
        cases h
        exact ⟨rd, fo, la, hrd, hfo, hla, rfl⟩

theorem reduce_not_key (hS : dpStartOK G A = true) {x : Nat} {t : Tr} {r : Nat}
    (hx : (trans G A)[x]? = some t) (hk : t.kind = .rule r) : isKey G x t = false := by
  obtain ⟨t0, S, h0, _, _, hk0⟩ := dpStart_ok hS
  cases hkey : isKey G x t with
  | false => rfl
  | true =>
    simp only [isKey, isNT, hk, Bool.or_false, beq_iff_eq] at hkey
    subst hkey
    cases hx.symm.trans h0
    cases hk.symm.trans hk0

theorem stagesDG_sets {sd : Stages} (hsz : DG.dgSizeOK G A nl = true) (hS : dpStartOK G A = true)
    (hsd : DG.stagesDG G A nl = some sd) :
    (∀ i a, a ∈ sd.read.getD i [] ↔
      Sol (readsRel G nl (trans G A)) ((dr G (trans G A)).getD · []) i a) ∧
    (∀ i a, a ∈ sd.follow.getD i [] ↔
      Sol (includesRel G A nl (trans G A)) (sd.read.getD · []) i a) ∧
    (∀ x t, (trans G A)[x]? = some t → ∀ a, a ∈ sd.la.getD x [] ↔
      a ∈ laOf (lookbackRel G A (trans G A)) sd.follow x t) := by
  obtain ⟨rd, fo, la, hrd, hfo, hla, rfl⟩ := stagesDG_some hsd
  simp only [DG.dgSizeOK, Bool.and_eq_true, decide_eq_true_eq] at hsz
  obtain ⟨⟨hz1, hz2⟩, hz3⟩ := hsz
  -- a map that is empty off the keys is faithfully tabulated
  have htab : ∀ {F : Nat → List Sym}, (∀ i a, a ∈ F i → ∃ t, (trans G A)[i]? = some t ∧
      isKey G i t = true) → ∀ i a, a ∈ (DG.tabulate (trans G A).length F).getD i [] ↔ a ∈ F i :=
    fun hF i a => mem_getD_tabulate.trans ⟨fun h => h.2, fun h =>
      ⟨(hF i a h).elim fun t ht => (List.getElem?_eq_some_iff.mp ht.1).1, h⟩⟩
  have h1 := DG.digraph_exact hz1 hrd (fun i a h => mem_keysOf.mpr (sol_reads_key h))
  have hrdkey := fun i a h => sol_reads_key ((h1 i a).mp h)
  have h2 := DG.digraph_exact hz2 hfo (fun i a h => mem_keysOf.mpr (sol_includes_key hrdkey h))
  have hfokey := fun i a h => sol_includes_key hrdkey ((h2 i a).mp h)
  dsimp only
  refine ⟨fun i a => (htab hrdkey i a).trans (h1 i a), fun i a => ((htab hfokey i a).trans (h2 i a)).trans
    (Sol.congr (fun i a => (htab hrdkey i a).symm) i a), fun x t hx a => ?_⟩
  simp only [List.getD_eq_getElem?_getD, getElem?_map_zipIdx, hx, Option.map_some, Option.getD_some]
  cases hk : t.kind with
  | sym X => simp [DG.laOfDG, laOf, hk]
  | rule r =>
    by_cases hr : r = 0
    · simp [DG.laOfDG, laOf, hk, hr]
    · have hempty : ∀ a, a ∉ fo x := fun a ha => by
        obtain ⟨t', ht', hkey⟩ := hfokey x a ha
        cases hx.symm.trans ht'
        rw [reduce_not_key hS hx hk] at hkey; cases hkey
      have : DG.laOfDG la x t = la x := by simp [DG.laOfDG, hk, hr]
      rw [this, dg_la_iff hz3 hla hx hk hempty a, mem_laOf_raw hk hr]
      exact exists_congr fun y => and_congr_right fun _ => (htab hfokey y a).symm

end sites

end Y.DGP
