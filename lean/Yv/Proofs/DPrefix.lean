import Yv.Proofs.DValue
import Yv.Proofs.CanonFacts
import Yv.Proofs.LAOracleFacts
/-! Viable-prefix invariant of the concrete driver (second half of C06).

    * `its_eq_St0`: on a certified canonical automaton the item list of the top state of every
      path-consistent stack is the canonical LR(0) state `St0` of the stack's symbol string.
    * `invV_prefix`: whatever has been shifted extends to a sentence. -/
namespace Y

theorem Vals.genL {V : Type} {G : Grammar} {sem : Nat → List V → V} {γ : List Sym}
    {u : List (Sym × V)} {vs : List V} {rs : List Nat} (h : Vals G sem γ u vs rs) :
    GenL G γ (u.map Prod.fst) := by
  induction h with
  | nil => exact .nil
  | tm t v γ u vs rs ht _ ih => exact .tm t _ _ ht ih
  | nt r rl γ u1 u2 vs1 vs rs1 rs2 hr _ _ ih1 ih2 =>
    rw [List.map_append]; exact .nt r rl _ _ _ hr ih1 ih2

theorem prodOK_rhsProductive {G : Grammar} {nS : Nat} (h : prodOK G nS = true) : RhsProductive G := by
  intro r rl hr k
  obtain ⟨y, hy⟩ := gen_of_all_prod (rl.rhs.drop k) fun x hx =>
    (prodOK_ok h).rhsP rl (List.mem_of_getElem? hr) x (List.mem_of_mem_drop hx)
  exact ⟨y, hy.terms, hy.derives⟩

theorem isT_zero (G : Grammar) : G.isT 0 = false := by
  unfold Grammar.isT; simp

/-- a derivation of a terminal string from `start'` begins with the augmented rule -/
theorem derives_strip_start {G : Grammar} {nS : Nat} (hG : gramWF G nS = true) {S₀ : Sym}
    (h0 : G.rules[0]? = some ⟨0, [S₀]⟩) {x : List Sym} (hx : Terminals G x)
    (h : Derives G [0] x) : Derives G [S₀] x := by
  rcases h.inv with e | ⟨pre, post, r, rl, hr, e, h'⟩
  · have := hx 0 (e ▸ List.mem_cons_self)
    rw [isT_zero] at this; cases this
  · cases pre with
    | cons p pre' => simp at e
    | nil =>
      obtain ⟨el, rfl⟩ : 0 = rl.lhs ∧ [] = post := by simpa using e
      have hr0 : r = 0 := Nat.eq_zero_of_not_pos fun h =>
        Nat.not_lt_zero _ (el ▸ gramWF_lhs_gt hG r rl hr h)
      subst hr0
      cases h0.symm.trans hr
      simpa only [List.nil_append, List.append_nil] using h'

end Y

namespace Y.D
open Y
variable {V : Type}

/-- On a certified canonical automaton the items of the top state of a path-consistent stack are
    exactly the canonical LR(0) state reached by the stack's symbols (`St0` takes the most recent
    symbol first, `ssyms` lists them left to right). -/
theorem its_eq_St0 {G : Grammar} {A : Auto} (hA : AOK G A) (ok : CanonOK G A)
    {st : List (Entry V)} (hp : PathOK A st) :
    ∀ it, it ∈ A.its (stTop st) ↔ St0 G (ssyms st).reverse it := by
  induction hp with
  | bottom v => exact ok.s0
  | push e st hp hg ih =>
    intro it
    have hq := hp.top_lt hA
    obtain ⟨_, _, hcl⟩ := ok.entry _ hq _ _ (Auto.goto_mem hg)
    rw [ssyms_push e hp.ne_nil, List.reverse_append]
    exact (hcl it).trans (Cl0_congr (fun x => adv0_congr ih x) it)

theorem top_has_item {G : Grammar} {A : Auto} (hA : AOK G A) (ok : CanonOK G A)
    {st : List (Entry V)} (hp : PathOK A st) : ∃ it, it ∈ A.its (stTop st) := by
  cases hp with
  | bottom v => exact ⟨⟨0, 0⟩, hA.s0_start⟩
  | push e st' hp' hg =>
    have hq := hp'.top_lt hA
    obtain ⟨⟨jt, hj, hx⟩, _, _⟩ := ok.entry _ hq _ _ (Auto.goto_mem hg)
    obtain ⟨p, hgp, hm⟩ := hA.gotoC _ hq jt hj _ hx
    rw [hg] at hgp; cases hgp
    exact ⟨_, hm⟩

/-- the symbol string of a path-consistent stack is a viable prefix with a terminal completion -/
theorem stack_viable {G : Grammar} {A : Auto} (hA : AOK G A) (ok : CanonOK G A)
    (hP : RhsProductive G) {st : List (Entry V)} (hp : PathOK A st) :
    ∃ rl0 z, G.rules[0]? = some rl0 ∧ Terminals G z ∧ Derives G [rl0.lhs] (ssyms st ++ z) := by
  obtain ⟨it, hit⟩ := top_has_item hA ok hp
  have hst := (its_eq_St0 hA ok hp it).mp hit
  obtain ⟨rl0, h0⟩ : ∃ rl0, G.rules[0]? = some rl0 := by
    have := (hA.item_ok _ (hp.top_lt hA) it hit).1
    exact rule_of_lt (by omega)
  have hv := St0_valid' G hP rl0 h0 _ it hst
  rw [List.reverse_reverse] at hv
  exact valid_viable' G hP _ it hv

theorem invV_prefix {G : Grammar} {nS : Nat} {A : Auto} {sem : Nat → List V → V}
    (hG : gramWF G nS = true) (hA : AOK G A) (ok : CanonOK G A) (hP : RhsProductive G)
    {w : List (Sym × V)} {c : Cfg V} (h : InvV G A sem w c) :
    ∃ (shifted : List (Sym × V)) (z : List Sym), w = shifted ++ c.rest ∧ Terminals G z ∧
      ∃ S₀, G.rules[0]? = some ⟨0, [S₀]⟩ ∧ Derives G [S₀] (shifted.map Prod.fst ++ z) ∧
        GenL G [S₀] (shifted.map Prod.fst ++ z) := by
  obtain ⟨shifted, hw, hv⟩ := h.val
  obtain ⟨rl0, z, h0, hz, hvp⟩ := stack_viable hA ok hP h.inv.path
  obtain ⟨S₀, hS⟩ := (gramWF_ok hG).start
  cases h0.symm.trans hS
  have hterm : Terminals G (shifted.map Prod.fst ++ z) := Terminals.append hv.genL.terms hz
  have hs := derives_strip_start hG hS hterm (hvp.trans (hv.genL.derives.append (.refl z)))
  exact ⟨shifted, z, hw, hz, S₀, hS, hs, hs.genL hterm⟩

theorem Reach.rest_suffix {P : Params V} {c c' : Cfg V} (h : Reach P c c') :
    ∃ u, c.rest = u ++ c'.rest := by
  induction h with
  | refl => exact ⟨[], rfl⟩
  | tail c1 c2 _ hs ih =>
    obtain ⟨u, hu⟩ := ih
    cases step_move hs (by simp) with
    | shift =>
      show ∃ u, c.rest = u ++ c1.rest.tail
      cases hr : c1.rest with
      | nil => exact ⟨u, by rw [hu, hr]; rfl⟩
      | cons x xs => exact ⟨u ++ [x], by rw [hu, hr]; simp⟩
    | reduce => exact ⟨u, hu⟩

end Y.D
