import Yv.Abs.DPRel
import Yv.Proofs.CanonFacts
import Yv.Proofs.LAOracleFacts
/-! Helper lemmas for C03b: the DeRemer–Pennello sets (declarative, `Yv/Abs/DPRel.lean`) are exactly
    the LALR(1) lookahead sets `LA`. -/
namespace Y.DP
open Y

theorem walk_nil (goto : Nat → Sym → Option Nat) (q : Nat) : walk goto q [] = some q := rfl

theorem walk_cons {goto : Nat → Sym → Option Nat} {q p : Nat} {X : Sym} (h : goto q X = some p)
    (γ : List Sym) : walk goto q (X :: γ) = walk goto p γ := by
  simp only [walk, h]

theorem walk_snoc {goto : Nat → Sym → Option Nat} (X : Sym) : ∀ (γ : List Sym) (q : Nat),
    walk goto q (γ ++ [X]) = (walk goto q γ).bind (goto · X)
  | [], q => by simp only [List.nil_append, walk, Option.bind_some]; cases goto q X <;> rfl
  | Y :: γ, q => by simp only [List.cons_append, walk]; cases goto q Y <;> simp [walk_snoc X γ]

theorem genL_single_t {G : Grammar} (hN : ∀ (r : Nat) (rl : Rule), G.rules[r]? = some rl → G.isT rl.lhs = false)
    {b : Sym} (hb : G.isT b = true) {v : List Sym} (h : GenL G [b] v) : v = [b] := by
  cases h with
  | tm t γ v' _ h' => cases h'; rfl
  | nt r rl γ u v' hr _ _ =>
    rw [hN r rl hr] at hb; cases hb

theorem firstOf_snoc_cases {G : Grammar}
    (hN : ∀ (r : Nat) (rl : Rule), G.rules[r]? = some rl → G.isT rl.lhs = false)
    {η : List Sym} {b a : Sym} (hb : G.isT b = true) (h : FirstOf G (η ++ [b]) a) :
    FirstOf G η a ∨ (GenL G η [] ∧ a = b) := by
  obtain ⟨u, hu⟩ := h
  obtain ⟨u1, u2, he, h1, h2⟩ := GenL.split _ _ _ hu
  have := genL_single_t hN hb h2
  subst this
  cases u1 with
  | nil =>
    simp only [List.nil_append, List.cons.injEq] at he
    exact Or.inr ⟨h1, he.1⟩
  | cons x xs =>
    simp only [List.cons_append, List.cons.injEq] at he
    obtain ⟨rfl, _⟩ := he
    exact Or.inl ⟨xs, h1⟩

theorem firstOf_snoc_left {G : Grammar} {η : List Sym} {b a : Sym} (hb : G.isT b = true)
    (h : FirstOf G η a) : FirstOf G (η ++ [b]) a := by
  obtain ⟨u, hu⟩ := h
  exact ⟨u ++ [b], by simpa using hu.snocT b hb⟩

theorem firstOf_snoc_null {G : Grammar} {η : List Sym} {b : Sym} (hb : G.isT b = true)
    (h : GenL G η []) : FirstOf G (η ++ [b]) b :=
  ⟨[], by simpa using h.snocT b hb⟩

theorem firstOf_cons_null {G : Grammar} {C : Sym} {γ : List Sym} {a : Sym} (hC : GenL G [C] [])
    (h : FirstOf G γ a) : FirstOf G (C :: γ) a := by
  obtain ⟨u, hu⟩ := h
  exact ⟨u, by simpa using GenL.cons1 hC hu⟩

theorem firstOf_cons_first {G : Grammar} {X : Sym} {γ : List Sym} {a : Sym}
    (hγ : ∀ x ∈ γ, Productive G x) (h : FirstOf G [X] a) : FirstOf G (X :: γ) a := by
  obtain ⟨u, hu⟩ := h
  obtain ⟨y, hy⟩ := gen_of_all_prod γ hγ
  exact ⟨u ++ y, by simpa using GenL.cons1 hu hy⟩

theorem firstOf_rule {G : Grammar} {r : Nat} {rl : Rule} (hr : G.rules[r]? = some rl) {a : Sym}
    (h : FirstOf G rl.rhs a) : FirstOf G [rl.lhs] a := by
  obtain ⟨u, hu⟩ := h
  exact ⟨u, GenL.ofRule hr hu⟩

/-- some terminal begins a string derived from a productive sequence that ends with a terminal -/
theorem firstOf_exists {G : Grammar} {η : List Sym} {b : Sym} (hb : G.isT b = true)
    (hη : ∀ x ∈ η, Productive G x) : ∃ a, FirstOf G (η ++ [b]) a := by
  obtain ⟨y, hy⟩ := gen_of_all_prod η hη
  have h := hy.snocT b hb
  cases y with
  | nil => exact ⟨b, [], by simpa using h⟩
  | cons a y' => exact ⟨a, y' ++ [b], by simpa using h⟩

/-- the hypotheses of the DeRemer–Pennello theorem (hence `DPH`): the Prop-level content of the decidable
    checks `gramWF`, `certA`, `certCanon`, `prodOK` -/
structure DPH (G : Grammar) (nS : Nat) (A : Auto) : Prop where
  gok : GOK G nS
  aok : AOK G A
  cok : CanonOK G A
  prod : GramProd G

section Auto
variable {G : Grammar} {nS : Nat} {A : Auto}

theorem DPH.goto_n (h : DPH G nS A) {q : Nat} {X : Sym} {p : Nat} (hg : A.goto q X = some p) :
    q < A.n := by
  rw [← h.aok.glen]
  rcases Nat.lt_or_ge q A.gotos.length with hlt | hge
  · exact hlt
  · have hm := Auto.goto_mem hg
    unfold Auto.gts at hm
    rw [List.getD_eq_getElem?_getD, List.getElem?_eq_none hge] at hm
    cases hm

theorem DPH.goto_of_mem (h : DPH G nS A) {q : Nat} (hq : q < A.n) {X : Sym} {p : Nat}
    (hm : (X, p) ∈ A.gts q) : A.goto q X = some p :=
  Auto.goto_of_nodup (h.cok.symsNodup q hq) hm

theorem DPH.lhsNT (h : DPH G nS A) {r : Nat} {rl : Rule} (hr : G.rules[r]? = some rl) :
    G.isT rl.lhs = false :=
  (gwfx_of_gok h.gok).lhsNT r rl hr

/-- a rule whose left-hand side occurs in a right-hand side is not rule 0 -/
theorem DPH.ne0_of_lhs (h : DPH G nS A) {r d r' : Nat} {rl rl' : Rule} (hr : G.rules[r]? = some rl)
    (hr' : G.rules[r']? = some rl') (hx : rl.rhs[d]? = some rl'.lhs) : r' ≠ 0 :=
  (gwfx_of_gok h.gok).noStart r rl r' rl' d hr hr' hx

theorem DPH.state_cl (h : DPH G nS A) {q : Nat} (hq : q < A.n) :
    ∃ K : Item → Prop, ∀ it, it ∈ A.its q ↔ Cl0 G K it := by
  by_cases h0 : q = 0
  · subst h0; exact ⟨_, h.cok.s0⟩
  · obtain ⟨q', hlt, X, hm⟩ := h.cok.reach q hq h0
    exact ⟨_, (h.cok.entry q' (Nat.lt_trans hlt hq) X q hm).2.2⟩

theorem DPH.clC (h : DPH G nS A) {q : Nat} (hq : q < A.n) {r d r' : Nat} {rl' : Rule}
    (hit : (⟨r, d⟩ : Item) ∈ A.its q) (hx : (G.rhsOf r)[d]? = some rl'.lhs)
    (hr' : G.rules[r']? = some rl') : (⟨r', 0⟩ : Item) ∈ A.its q := by
  obtain ⟨K, hK⟩ := h.state_cl hq
  obtain ⟨rl, hr, hx'⟩ := rhsOf_get.mp hx
  exact (hK _).mpr (.step r d r' rl rl' ((hK _).mp hit) hr hr' hx')

theorem DPH.gotoC (h : DPH G nS A) {q : Nat} (hq : q < A.n) {r d : Nat} {X : Sym}
    (hit : (⟨r, d⟩ : Item) ∈ A.its q) (hx : (G.rhsOf r)[d]? = some X) :
    ∃ p, A.goto q X = some p ∧ p < A.n ∧ p ≠ 0 ∧ (⟨r, d + 1⟩ : Item) ∈ A.its p := by
  obtain ⟨p, hg, hm⟩ := h.aok.gotoC q hq ⟨r, d⟩ hit X hx
  obtain ⟨hp, hp0, _⟩ := h.aok.edge q hq X p hg
  exact ⟨p, hg, hp, hp0, hm⟩

/-- a state with an item of a rule other than rule 0 at dot 0 has a transition on its left-hand side -/
theorem DPH.goto_lhs (h : DPH G nS A) {q : Nat} (hq : q < A.n) {r : Nat} (hr0 : r ≠ 0)
    (hit : (⟨r, 0⟩ : Item) ∈ A.its q) : ∃ p, A.goto q (G.lhsOf r) = some p := by
  obtain ⟨jt, hj, hx⟩ := h.aok.just q hq ⟨r, 0⟩ hit rfl hr0
  obtain ⟨p, hg, _⟩ := h.aok.gotoC q hq jt hj _ hx
  exact ⟨p, hg⟩

theorem drop_of_get {α : Type} {l : List α} {d : Nat} {x : α} (h : l[d]? = some x) :
    l.drop d = x :: l.drop (d + 1) := by
  obtain ⟨hd, rfl⟩ := List.getElem?_eq_some_iff.mp h
  exact List.drop_eq_getElem_cons hd

/-! ## reading: completeness -/

/-- state `s` can read `a`: via transitions on nullable nonterminals it reaches a state with a
    transition on the terminal `a` -/
inductive Rd (G : Grammar) (A : Auto) : Nat → Sym → Prop
  | base (s : Nat) (a : Sym) (s' : Nat) : G.isT a = true → A.goto s a = some s' → Rd G A s a
  | step (s : Nat) (C : Sym) (s' : Nat) (a : Sym) : G.isT C = false → GenL G [C] [] →
      A.goto s C = some s' → Rd G A s' a → Rd G A s a

theorem rd_inRead {p1 : Nat} {a : Sym} (hrd : Rd G A p1 a) :
    ∀ (p : Nat) (B : Sym), G.isT B = false → A.goto p B = some p1 → InRead G A p B a := by
  induction hrd with
  | base s a s' ha hg =>
    intro p B hB hp
    exact .dr p B a (.read p B s a s' hB hp ha hg)
  | step s C s' a hC hn hg _ ih =>
    intro p B hB hp
    exact .step p B s C a ⟨hp, hC, hn, s', hg⟩ (ih s C hC hg)

/-- an item `[.. · γ]` of state `s` with `a ∈ FIRST(γ)`: `s` can read `a` -/
theorem rd_of_first (h : DPH G nS A) : ∀ (γ w : List Sym), GenL G γ w → ∀ (a : Sym) (u : List Sym),
    w = a :: u → ∀ (s r d : Nat), s < A.n → (⟨r, d⟩ : Item) ∈ A.its s → (G.rhsOf r).drop d = γ →
    Rd G A s a := by
  intro γ w hg
  induction hg with
  | nil => intro a u hw; cases hw
  | tm t γ v ht _ _ =>
    intro a u hw s r d hs hit hd
    simp only [List.cons.injEq] at hw
    obtain ⟨rfl, _⟩ := hw
    obtain ⟨p, hp, _⟩ := h.gotoC hs hit (drop_cons_inv hd).1
    exact .base s t p ht hp
  | nt r' rl γ u1 v hr' h1 _ ih1 ih2 =>
    intro a u hw s r d hs hit hd
    obtain ⟨hx, hd', _⟩ := drop_cons_inv hd
    cases u1 with
    | nil =>
      simp only [List.nil_append] at hw
      obtain ⟨p, hp, hpn, _, hmem⟩ := h.gotoC hs hit hx
      exact .step s rl.lhs p a (h.lhsNT hr') (GenL.ofRule hr' h1) hp
        (ih2 a u hw p r (d + 1) hpn hmem hd')
    | cons x xs =>
      simp only [List.cons_append, List.cons.injEq] at hw
      obtain ⟨rfl, _⟩ := hw
      have hmem := h.clC hs hit hx hr'
      exact ih1 x xs rfl s r' 0 hs hmem (by rw [List.drop_zero, rhsOf_of_get hr'])

/-- `a ∈ FIRST(η)` for an item `[C → δ · B η]` of `p`: `a ∈ Read (p, B)` -/
theorem inRead_of_first (h : DPH G nS A) {p r d : Nat} {B a : Sym} (hp : p < A.n)
    (hit : (⟨r, d⟩ : Item) ∈ A.its p) (hx : (G.rhsOf r)[d]? = some B) (hB : G.isT B = false)
    (hf : FirstOf G ((G.rhsOf r).drop (d + 1)) a) : InRead G A p B a := by
  obtain ⟨u, hu⟩ := hf
  obtain ⟨p1, hg, hp1, _, hmem⟩ := h.gotoC hp hit hx
  exact rd_inRead (rd_of_first h _ _ hu a u rfl p1 r (d + 1) hp1 hmem rfl) p B hB hg

/-! ## completeness: every LALR(1) lookahead is a DeRemer–Pennello lookahead -/

/-- invariant of an LALR(1) fact `[C → δ · γ], b` at `q`: the item was introduced at dot 0 in a state
    `p'` with `walk p' δ = q`, and `b ∈ Follow (p', C)` (or it is the start item's `$`) -/
def Inv (G : Grammar) (A : Auto) (q : Nat) (it : Item) (b : Sym) : Prop :=
  q < A.n ∧ it ∈ A.its q ∧ ∃ p', p' < A.n ∧
    walk A.goto p' ((G.rhsOf it.r).take it.d) = some q ∧ (⟨it.r, 0⟩ : Item) ∈ A.its p' ∧
    ((it.r = 0 ∧ p' = 0 ∧ b = 1) ∨ (it.r ≠ 0 ∧ InFollow G A p' (G.lhsOf it.r) b))

theorem inv_clos (h : DPH G nS A) {q r d : Nat} {b : Sym} {r' : Nat} {a : Sym}
    (hla : LA G A.goto q ⟨r, d⟩ b) (ih : Inv G A q ⟨r, d⟩ b) (hs : ClStep G r d b r' a) :
    Inv G A q ⟨r', 0⟩ a := by
  obtain ⟨hq, hit, p', hp', hw, hit0, hor⟩ := ih
  obtain ⟨rl, rl', hr, hr', hx, hF⟩ := hs
  have hx' : (G.rhsOf r)[d]? = some rl'.lhs := rhsOf_get.mpr ⟨rl, hr, hx⟩
  have hmem : (⟨r', 0⟩ : Item) ∈ A.its q := h.clC hq hit hx' hr'
  have hne : r' ≠ 0 := h.ne0_of_lhs hr hr' hx
  have hbT : G.isT b = true := LA_isT h.prod.eofT hla
  refine ⟨hq, hmem, q, hq, by simp [walk], hmem, Or.inr ⟨hne, ?_⟩⟩
  simp only [lhsOf_of_get hr']
  rcases firstOf_snoc_cases (fun r rl hr => h.lhsNT hr) hbT hF with hf | ⟨hnull, rfl⟩
  · exact .rd _ _ _ (inRead_of_first h hq hit hx' (h.lhsNT hr') (by rw [rhsOf_of_get hr]; exact hf))
  · simp only at hor hw
    rcases hor with ⟨h0, hp0, hb1⟩ | ⟨hn0, hfol⟩
    · subst h0; subst hp0; subst hb1
      obtain ⟨rl0, hr0, _, hlen⟩ := h.gok.r0
      rw [hr] at hr0; cases hr0
      have hd : d = 0 := by
        have := (List.getElem?_eq_some_iff.mp hx).1
        omega
      subst hd
      simp only [List.take_zero, walk, Option.some.injEq] at hw
      subst hw
      exact .rd _ _ _ (.dr _ _ _ (.start _ hx'))
    · refine .inc q rl'.lhs p' (G.lhsOf r) a ?_ hfol
      refine ⟨r, rl, d, hr, (lhsOf_of_get hr).symm, hx, hnull, hp', ⟨⟨r, 0⟩, hit0, rfl⟩, ?_,
        h.goto_lhs hp' hn0 hit0⟩
      rw [← rhsOf_of_get hr]; exact hw

theorem inv_goto (h : DPH G nS A) {q r d : Nat} {b : Sym} {rl : Rule} {X : Sym} {p : Nat}
    (ih : Inv G A q ⟨r, d⟩ b) (hr : G.rules[r]? = some rl) (hx : rl.rhs[d]? = some X)
    (hg : A.goto q X = some p) : Inv G A p ⟨r, d + 1⟩ b := by
  obtain ⟨hq, hit, p', hp', hw, hit0, hor⟩ := ih
  obtain ⟨p2, hg2, hp2, _, hmem⟩ := h.gotoC hq hit (rhsOf_get.mpr ⟨rl, hr, hx⟩)
  rw [hg] at hg2; cases hg2
  refine ⟨hp2, hmem, p', hp', ?_, hit0, hor⟩
  simp only at hw ⊢
  rw [rhsOf_of_get hr] at hw ⊢
  rw [take_succ_of_get hx, walk_snoc, hw]
  exact hg

theorem LA_inv (h : DPH G nS A) {q : Nat} {it : Item} {b : Sym} (hla : LA G A.goto q it b) :
    Inv G A q it b := by
  induction hla with
  | init =>
    exact ⟨h.aok.npos, h.aok.s0_start, 0, h.aok.npos, by simp [walk], h.aok.s0_start,
      Or.inl ⟨rfl, rfl, rfl⟩⟩
  | clos q r d b r' a hla hs ih => exact inv_clos h hla ih hs
  | goto q r d b rl X p _ hr hx hg ih => exact inv_goto h ih hr hx hg

theorem LA_inLA (h : DPH G nS A) {q r : Nat} {a : Sym}
    (hla : LA G A.goto q ⟨r, (G.rhsOf r).length⟩ a) : InLA G A q r a := by
  obtain ⟨_, _, p', hp', hw, hit0, hor⟩ := LA_inv h hla
  simp only [List.take_length] at hw hor hit0
  rcases hor with ⟨h0, _, hb⟩ | ⟨hn0, hfol⟩
  · exact Or.inl ⟨h0, hb⟩
  · exact Or.inr ⟨hn0, p', ⟨hw, h.goto_lhs hp' hn0 hit0⟩, hfol⟩

/-! ## soundness: every DeRemer–Pennello lookahead is an LALR(1) lookahead -/

theorem DPH.prod_rhsOf (h : DPH G nS A) (r : Nat) : ∀ x ∈ G.rhsOf r, Productive G x := by
  intro x hx
  unfold Grammar.rhsOf at hx
  split at hx
  · rename_i rl hr
    exact h.prod.rhsP rl (List.mem_of_getElem? hr) x hx
  · cases hx

theorem DPH.prod_drop (h : DPH G nS A) (r d : Nat) : ∀ x ∈ (G.rhsOf r).drop d, Productive G x :=
  fun x hx => h.prod_rhsOf r x (List.mem_of_mem_drop hx)

theorem live_cl (h : DPH G nS A) {q : Nat} {K : Item → Prop}
    (hK : ∀ it, K it → ∃ b, LA G A.goto q it b) : ∀ it, Cl0 G K it → ∃ b, LA G A.goto q it b := by
  intro it hcl
  induction hcl with
  | base it hk => exact hK it hk
  | step r d r' rl rl' _ hr hr' hx ih =>
    obtain ⟨b, hb⟩ := ih
    have hbT : G.isT b = true := LA_isT h.prod.eofT hb
    obtain ⟨a, ha⟩ := firstOf_exists (η := rl.rhs.drop (d + 1)) hbT
      (fun x hx => h.prod.rhsP rl (List.mem_of_getElem? hr) x (List.mem_of_mem_drop hx))
    exact ⟨a, LA.clos q r d b r' a hb ⟨rl, rl', hr, hr', hx, ha⟩⟩

/-- every item of every state carries at least one LALR(1) lookahead (all states are reachable) -/
theorem live (h : DPH G nS A) : ∀ q, q < A.n → ∀ it ∈ A.its q, ∃ b, LA G A.goto q it b := by
  intro q
  induction q using Nat.strongRecOn with
  | _ q ih =>
    intro hq it hit
    by_cases h0 : q = 0
    · subst h0
      refine live_cl h (K := fun x => x = ⟨0, 0⟩) ?_ it ((h.cok.s0 it).mp hit)
      intro jt hj
      subst hj
      exact ⟨1, LA.init⟩
    · obtain ⟨q', hlt, X, hm⟩ := h.cok.reach q hq h0
      have hq' : q' < A.n := Nat.lt_trans hlt hq
      have hg : A.goto q' X = some q := h.goto_of_mem hq' hm
      refine live_cl h ?_ it (((h.cok.entry q' hq' X q hm).2.2 it).mp hit)
      intro jt hj
      obtain ⟨r, d, rl, rfl, hr, hx, hmem⟩ := hj
      obtain ⟨b, hb⟩ := ih q' hlt hq' ⟨r, d⟩ hmem
      exact ⟨b, LA.goto q' r d b rl X q hb hr hx hg⟩

/-- a closure item whose rest can begin with `a` goes back to a KERNEL item whose rest can begin with
    `a`: a closure step adds `B → · γ` for an item `… · B β`, and `FIRST (γ) ⊆ FIRST (B β)` -/
theorem first_to_kernel (h : DPH G nS A) {K : Item → Prop} : ∀ it, Cl0 G K it → ∀ a,
    FirstOf G ((G.rhsOf it.r).drop it.d) a → ∃ k, K k ∧ FirstOf G ((G.rhsOf k.r).drop k.d) a := by
  intro it hcl
  induction hcl with
  | base it hk => intro a hf; exact ⟨it, hk, hf⟩
  | step r d r' rl rl' _ hr hr' hx ih =>
    intro a hf
    simp only [List.drop_zero, rhsOf_of_get hr'] at hf
    refine ih a ?_
    simp only [rhsOf_of_get hr, drop_of_get hx]
    refine firstOf_cons_first ?_ (firstOf_rule hr' hf)
    intro x hx'
    exact h.prod.rhsP rl (List.mem_of_getElem? hr) x (List.mem_of_mem_drop hx')

/-- an item of the target of an edge that can begin with `a` stems from an item of the source
    with the edge's symbol after the dot and `a ∈ FIRST` of the rest -/
theorem edge_first (h : DPH G nS A) {q : Nat} {X : Sym} {s : Nat} (hg : A.goto q X = some s)
    {it : Item} (hit : it ∈ A.its s) {a : Sym} (hf : FirstOf G ((G.rhsOf it.r).drop it.d) a) :
    ∃ r d, (⟨r, d⟩ : Item) ∈ A.its q ∧ (G.rhsOf r)[d]? = some X ∧
      FirstOf G ((G.rhsOf r).drop (d + 1)) a := by
  have hq := h.goto_n hg
  have hcl := ((h.cok.entry q hq X s (Auto.goto_mem hg)).2.2 it).mp hit
  obtain ⟨k, hk, hfk⟩ := first_to_kernel h it hcl a hf
  obtain ⟨r, d, rl, rfl, hr, hx, hmem⟩ := hk
  exact ⟨r, d, hmem, rhsOf_get.mpr ⟨rl, hr, hx⟩, hfk⟩

theorem rd_sound (h : DPH G nS A) {s : Nat} {a : Sym} (hrd : Rd G A s a) :
    ∀ (q : Nat) (X : Sym), A.goto q X = some s → ∃ r d, (⟨r, d⟩ : Item) ∈ A.its q ∧
      (G.rhsOf r)[d]? = some X ∧ FirstOf G ((G.rhsOf r).drop (d + 1)) a := by
  induction hrd with
  | base s a s' ha hg =>
    intro q X hq
    obtain ⟨⟨it, hit, hx⟩, _, _⟩ := h.cok.entry s (h.goto_n hg) a s' (Auto.goto_mem hg)
    refine edge_first h hq hit ?_
    rw [drop_of_get hx]
    exact firstOf_cons_first (h.prod_drop _ _) ⟨[], GenL.term1 ha⟩
  | step s C s' a hC hn hg _ ih =>
    intro q X hq
    obtain ⟨r, d, hit, hx, hf⟩ := ih s C hg
    refine edge_first h hq hit ?_
    simp only
    rw [drop_of_get hx]
    exact firstOf_cons_null hn hf

theorem inRead_cases (h : DPH G nS A) {p : Nat} {B a : Sym} (hr : InRead G A p B a) :
    (p = 0 ∧ (G.rhsOf 0)[0]? = some B ∧ a = 1) ∨ ∃ p1, A.goto p B = some p1 ∧ Rd G A p1 a := by
  induction hr with
  | dr p B a hdr =>
    match hdr with
    | .read _ _ p1 _ p2 _ hg ha hg2 => exact Or.inr ⟨p1, hg, .base _ _ _ ha hg2⟩
    | .start _ hS => exact Or.inl ⟨rfl, hS, rfl⟩
  | step p B p1 C a hreads _ ih =>
    obtain ⟨hg, hC, hn, p2, hg2⟩ := hreads
    rcases ih with ⟨h0, _, _⟩ | ⟨s, hgs, hrd⟩
    · exact absurd h0 (h.aok.edge p (h.goto_n hg) B p1 hg).2.1
    · exact Or.inr ⟨p1, hg, .step p1 C s a hC hn hgs hrd⟩

/-- the lookaheads that the LR(1) closure hands to the `B`-items of state `p` -/
def Fol (G : Grammar) (A : Auto) (p : Nat) (B a : Sym) : Prop :=
  ∃ r d b rl, G.rules[r]? = some rl ∧ rl.rhs[d]? = some B ∧ LA G A.goto p ⟨r, d⟩ b ∧
    FirstOf G (rl.rhs.drop (d + 1) ++ [b]) a

theorem inRead_fol (h : DPH G nS A) {p : Nat} {B a : Sym} (hr : InRead G A p B a) :
    Fol G A p B a := by
  rcases inRead_cases h hr with ⟨rfl, hS, rfl⟩ | ⟨p1, hg, hrd⟩
  · obtain ⟨rl0, hr0, _, hlen⟩ := h.gok.r0
    obtain ⟨rl, hrl, hx⟩ := rhsOf_get.mp hS
    rw [hr0] at hrl; cases hrl
    refine ⟨0, 0, 1, rl0, hr0, hx, LA.init, firstOf_snoc_null h.prod.eofT ?_⟩
    rw [List.drop_eq_nil_of_le (by omega)]
    exact .nil
  · obtain ⟨r, d, hit, hx, hf⟩ := rd_sound h hrd p B hg
    obtain ⟨b, hb⟩ := live h p (h.goto_n hg) _ hit
    obtain ⟨rl, hrl, hx'⟩ := rhsOf_get.mp hx
    rw [rhsOf_of_get hrl] at hf
    exact ⟨r, d, b, rl, hrl, hx', hb, firstOf_snoc_left (LA_isT h.prod.eofT hb) hf⟩

theorem LA_walk {r : Nat} {rl : Rule} (hr : G.rules[r]? = some rl) {p' : Nat} {a : Sym}
    (hla : LA G A.goto p' ⟨r, 0⟩ a) : ∀ (d : Nat), d ≤ rl.rhs.length → ∀ q,
    walk A.goto p' (rl.rhs.take d) = some q → LA G A.goto q ⟨r, d⟩ a := by
  intro d
  induction d with
  | zero =>
    intro _ q hw
    simp only [List.take_zero, walk, Option.some.injEq] at hw
    subst hw; exact hla
  | succ d ih =>
    intro hd q hw
    have hx : rl.rhs[d]? = some rl.rhs[d] := List.getElem?_eq_getElem (by omega)
    rw [take_succ_of_get hx, walk_snoc] at hw
    obtain ⟨m, hm, hg⟩ := Option.bind_eq_some_iff.mp hw
    exact LA.goto m r d a rl _ q (ih (by omega) m hm) hr hx hg

theorem inFollow_fol (h : DPH G nS A) {p : Nat} {B a : Sym} (hf : InFollow G A p B a) :
    Fol G A p B a := by
  induction hf with
  | rd p B a hr => exact inRead_fol h hr
  | inc p B p' C a hinc _ ih =>
    obtain ⟨r, rl, d, hr, hl, hx, hnull, _, _, hw, _⟩ := hinc
    obtain ⟨r2, d2, b2, rl2, hr2, hx2, hla2, hf2⟩ := ih
    have hla0 : LA G A.goto p' ⟨r, 0⟩ a :=
      LA.clos p' r2 d2 b2 r a hla2 ⟨rl2, rl, hr2, hr, by rw [hl]; exact hx2, hf2⟩
    have hd : d ≤ rl.rhs.length := Nat.le_of_lt (List.getElem?_eq_some_iff.mp hx).1
    have hla : LA G A.goto p ⟨r, d⟩ a := LA_walk hr hla0 d hd p hw
    exact ⟨r, d, a, rl, hr, hx, hla, firstOf_snoc_null (LA_isT h.prod.eofT hla) hnull⟩

theorem LA_rule0 (h : DPH G nS A) {q : Nat} {it : Item} {b : Sym} (hla : LA G A.goto q it b) :
    it.r = 0 → b = 1 := by
  induction hla with
  | init => intro _; rfl
  | clos q r d b r' a _ hs _ =>
    intro h0
    obtain ⟨rl, rl', hr, hr', hx, _⟩ := hs
    exact absurd h0 (h.ne0_of_lhs hr hr' hx)
  | goto q r d b rl X p _ _ _ _ ih => exact ih

theorem inLA_LA (h : DPH G nS A) {q r : Nat} {a : Sym} (hq : q < A.n)
    (hit : (⟨r, (G.rhsOf r).length⟩ : Item) ∈ A.its q) (hin : InLA G A q r a) :
    LA G A.goto q ⟨r, (G.rhsOf r).length⟩ a := by
  rcases hin with ⟨rfl, rfl⟩ | ⟨_, p, ⟨hw, _⟩, hfol⟩
  · obtain ⟨b, hb⟩ := live h q hq _ hit
    have := LA_rule0 h hb rfl
    subst this; exact hb
  · obtain ⟨rl, hr⟩ := rule_of_lt (h.aok.item_ok q hq _ hit).1
    obtain ⟨r2, d2, b2, rl2, hr2, hx2, hla2, hf2⟩ := inFollow_fol h hfol
    rw [lhsOf_of_get hr] at hx2
    have hla0 : LA G A.goto p ⟨r, 0⟩ a := LA.clos p r2 d2 b2 r a hla2 ⟨rl2, rl, hr2, hr, hx2, hf2⟩
    rw [rhsOf_of_get hr] at hw ⊢
    refine LA_walk hr hla0 _ (Nat.le_refl _) q ?_
    rw [List.take_length]; exact hw

end Auto

end Y.DP
