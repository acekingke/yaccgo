import Yv.Model.GenTab
import Yv.Proofs.CertFacts
import Yv.Proofs.CanonFacts
import Yv.Proofs.ListFacts
/-! Facts about the list-based table generator `Y.GT.genTableL`: every cell it writes passes the
    per-cell check of `certT`; without conflicts every cell holds the unique candidate.  Also: the pairwise
    resolutions of `Core` only ever select one of their arguments or the error marker (`rc_sel`, `ud_sel`,
    `pairWinner_sel`), which is all `genTable_certT` asks of a resolution. -/
namespace Y.GT
open Core (Action)

theorem foldl_sel {res : Action → Action → Action} (hR : ResSel res) (L : List Action) :
    ∀ (rest : List Action) (a : Action), (∀ x ∈ rest, x ∈ L) → (a ∈ L ∨ a.ty = 2) →
      (rest.foldl res a ∈ L ∨ (rest.foldl res a).ty = 2) := by
  intro rest
  induction rest with
  | nil => intro a _ h; exact h
  | cons b bs ih =>
    intro a hsub ha
    apply ih _ (fun x hx => hsub x (List.mem_cons_of_mem _ hx))
    rcases hR a b with e | e | e
    · rw [e]; exact ha
    · rw [e]; exact Or.inl (hsub b List.mem_cons_self)
    · exact Or.inr e

theorem foldCell_sel {res : Action → Action → Action} (hR : ResSel res) {l : List Action}
    {w : Action} (h : foldCell res l = some w) : w ∈ l ∨ w.ty = 2 := by
  cases l with
  | nil => cases h
  | cons a rest =>
    cases h
    exact foldl_sel hR (a :: rest) rest a (fun x hx => List.mem_cons_of_mem _ hx)
      (Or.inl List.mem_cons_self)

theorem foldCell_single (res : Action → Action → Action) (a : Action) :
    foldCell res [a] = some a := rfl

theorem foldCell_nil (res : Action → Action → Action) : foldCell res [] = none := rfl

theorem foldCell_none {res : Action → Action → Action} {l : List Action}
    (h : foldCell res l = none) : l = [] := by
  cases l with
  | nil => rfl
  | cons a rest => cases h

theorem shiftAct_ty (P : PrecData) (x : Sym) (p : Nat) : (P.shiftAct x p).ty = 0 := rfl
theorem shiftAct_idx (P : PrecData) (x : Sym) (p : Nat) : (P.shiftAct x p).idx = (p : Int) := rfl

theorem isT_pos {G : Grammar} {a : Nat} (h : G.isT a = true) : 1 ≤ a ∧ a ≤ G.nT := by
  unfold Grammar.isT at h
  simpa using h

theorem isT_valid {G : Grammar} {V : Type} {w : List (Sym × V)}
    (h : ∀ x ∈ w, G.isT x.1 = true ∧ x.1 ≠ 1) : ∀ x ∈ w, x.1 ≤ G.nT ∧ x.1 ≠ 1 :=
  fun x hx => ⟨(isT_pos (h x hx).1).2, (h x hx).2⟩

theorem isT_of_le {G : Grammar} {a : Sym} (h : ¬ a ≤ G.nT) : G.isT a = false := by
  unfold Grammar.isT
  simp [h]

variable {res : Action → Action → Action} {G : Grammar} {nS : Nat} {P : PrecData} {A : Auto} {t : LATab}
  {q : Nat}

theorem mem_candsOn {cs : List (Sym × Action)} {s : Sym} {w : Action} :
    w ∈ candsOn cs s ↔ (s, w) ∈ cs := by
  simp [candsOn]

theorem mem_shiftsL {s : Sym} {w : Action} :
    (s, w) ∈ shiftsL P A q ↔ ∃ e ∈ A.gts q, s = e.1 ∧ w = P.shiftAct e.1 e.2 := by
  simp only [shiftsL, List.mem_map, Prod.mk.injEq, eq_comm]

theorem mem_redsOf {it : Item} {s : Sym} {w : Action} :
    (s, w) ∈ redsOf G P t q it ↔
      ∃ rl, G.rules[it.r]? = some rl ∧ it.d = rl.rhs.length ∧ s ∈ t.get q it ∧ w = P.redAct it.r := by
  unfold redsOf
  cases hr : G.rules[it.r]? with
  | none => simp
  | some rl =>
    by_cases hd : it.d = rl.rhs.length <;> simp [hd]
    exact ⟨fun ⟨_, ha, e, hw⟩ => ⟨e ▸ ha, hw.symm⟩, fun ⟨hs, hw⟩ => ⟨s, hs, rfl, hw.symm⟩⟩

theorem mem_reducesL {s : Sym} {w : Action} :
    (s, w) ∈ reducesL G P A t q ↔
      ∃ it ∈ A.its q, ∃ rl, G.rules[it.r]? = some rl ∧ it.d = rl.rhs.length ∧ s ∈ t.get q it ∧
        w = P.redAct it.r := by
  simp only [reducesL, List.mem_flatMap, mem_redsOf]

theorem mem_candsL {s : Sym} {w : Action} :
    (s, w) ∈ candsL G P A t q ↔
      (∃ e ∈ A.gts q, s = e.1 ∧ w = P.shiftAct e.1 e.2) ∨
      (∃ it ∈ A.its q, ∃ rl, G.rules[it.r]? = some rl ∧ it.d = rl.rhs.length ∧ s ∈ t.get q it ∧
        w = P.redAct it.r) := by
  rw [candsL, List.mem_append, mem_shiftsL, mem_reducesL]

theorem redAct_ty (P : PrecData) (r : Nat) : (P.redAct r).ty = 1 := by
  unfold PrecData.redAct; split <;> rfl

theorem redAct_idx (P : PrecData) (r : Nat) : (P.redAct r).idx = -(r : Int) := by
  unfold PrecData.redAct; split <;> rfl

theorem decode_shift (P : PrecData) (n : Nat) (x : Sym) (p : Nat) (hp : p ≠ 0) :
    decode n (some (P.shiftAct x p)) = (p : Int) := by
  simp [decode, shiftAct_ty, shiftAct_idx, hp]

theorem decode_red (P : PrecData) (n : Nat) (r : Nat) :
    decode n (some (P.redAct r)) = if r = 0 then accCode n else -(r : Int) := by
  by_cases hr : r = 0 <;> simp [decode, redAct_ty, redAct_idx, hr]

theorem decode_err (n : Nat) (w : Action) (h : w.ty = 2) : decode n (some w) = errCode n := by
  simp [decode, h]

theorem gotosOK_iff : gotosOK nS A = true ↔
    ∀ q, q < A.n → ((A.gts q).map Prod.fst).Nodup ∧ ∀ e ∈ A.gts q, 2 ≤ e.1 ∧ e.1 < nS := by
  simp only [gotosOK, List.all_eq_true, List.mem_range, Bool.and_eq_true, nodupB_iff, decide_eq_true_eq]

theorem laOK_iff : laOK G A t = true ↔
    ∀ q, q < A.n → ∀ it ∈ A.its q, it.d = (G.rhsOf it.r).length → ∀ a ∈ t.get q it,
      G.isT a = true ∧ (it.r = 0 → a = 1) := by
  simp only [laOK, List.all_eq_true, List.mem_range, Bool.or_eq_true, bne_iff_ne, ne_eq,
    Bool.and_eq_true, beq_iff_eq, ← Decidable.imp_iff_not_or]

/-- the test `certT` performs on the value `v` of cell `(q, a)` -/
def cellChk (G : Grammar) (A : Auto) (q a : Nat) (v : Int) : Bool :=
  if v = errCode A.n then true
  else if a = 0 then false
  else if v = accCode A.n then a == 1 && (A.its q).contains ⟨0, 1⟩
  else if 0 < v then a != 1 && A.goto q a == some v.toNat
  else
    decide (1 ≤ (-v).toNat) && decide ((-v).toNat < G.rules.length) && G.isT a &&
      (A.its q).contains ⟨(-v).toNat, (G.rhsOf (-v).toNat).length⟩

theorem certT_intro {T : Dense}
    (hlen : T.length = A.n) (hrow : ∀ row ∈ T, row.length = nS)
    (hcell : ∀ q a, q < A.n → a < nS → ∃ v, cell T q a = some v ∧ cellChk G A q a v = true)
    (hnt : ∀ q, q < A.n → ∀ e ∈ A.gts q, G.isT e.1 = false → cell T q e.1 = some (e.2 : Int)) :
    certT G nS A T = true := by
  unfold certT
  simp only [Bool.and_eq_true, List.all_eq_true, List.mem_range, decide_eq_true_eq]
  refine ⟨⟨⟨hlen, hrow⟩, fun q hq a ha => ?_⟩, fun q hq e he => ?_⟩
  · obtain ⟨v, hc, hk⟩ := hcell q a hq ha
    simp only [hc]
    exact hk
  · cases hT : G.isT e.1 with
    | true => rfl
    | false => simp [hnt q hq e he hT]

theorem cellChk_err (G : Grammar) (A : Auto) (q a : Nat) : cellChk G A q a (errCode A.n) = true := by
  simp [cellChk]

theorem cellChk_acc (h : (⟨0, 1⟩ : Item) ∈ A.its q) : cellChk G A q 1 (accCode A.n) = true := by
  have hne : accCode A.n ≠ errCode A.n := by unfold accCode errCode; omega
  simp [cellChk, hne, h]

theorem cellChk_shift {a p : Nat} (hp : p < A.n) (hp0 : p ≠ 0)
    (ha0 : a ≠ 0) (ha1 : a ≠ 1) (hg : A.goto q a = some p) : cellChk G A q a (p : Int) = true := by
  have h1 : (p : Int) ≠ errCode A.n := by unfold errCode; omega
  have h2 : (p : Int) ≠ accCode A.n := by unfold accCode; omega
  simp [cellChk, h1, h2, Nat.pos_of_ne_zero hp0, ha0, ha1, hg]

theorem cellChk_red {a r : Nat} (hr1 : 1 ≤ r) (hr : r < G.rules.length)
    (ha : G.isT a = true) (hit : (⟨r, (G.rhsOf r).length⟩ : Item) ∈ A.its q) :
    cellChk G A q a (-(r : Int)) = true := by
  have h1 : -(r : Int) ≠ errCode A.n := by unfold errCode; omega
  have h2 : -(r : Int) ≠ accCode A.n := by unfold accCode; omega
  have h4 : a ≠ 0 := Nat.ne_of_gt (isT_pos ha).1
  simp [cellChk, h1, h2, h4, hr1, hr, ha, hit]

theorem genTable_length (res : Action → Action → Action) (G : Grammar) (nS : Nat) (P : PrecData)
    (A : Auto) (t : LATab) : (genTableL res G nS P A t).length = A.n := by
  simp [genTableL]

theorem genTable_row (res : Action → Action → Action) (G : Grammar) (nS : Nat) (P : PrecData)
    (A : Auto) (t : LATab) : ∀ row ∈ genTableL res G nS P A t, row.length = nS := by
  intro row hr
  obtain ⟨q, _, rfl⟩ := List.mem_map.mp hr
  simp [genRowL]

theorem cell_genTable (res : Action → Action → Action) (G : Grammar) (nS : Nat) (P : PrecData)
    (A : Auto) (t : LATab) {q a : Nat} (hq : q < A.n) (ha : a < nS) :
    cell (genTableL res G nS P A t) q a = some (cellOf res A.n (candsL G P A t q) a) := by
  simp [cell, genTableL, genRowL, hq, ha]

theorem cand_chk (hG : GOK G nS) (hA : AOK G A) (hE : gotosOK nS A = true) (hL : laOK G A t = true)
    (hq : q < A.n) {a : Nat} {w : Action} (hw : (a, w) ∈ candsL G P A t q) :
    cellChk G A q a (decode A.n (some w)) = true := by
  obtain ⟨hnd, hsym⟩ := gotosOK_iff.mp hE q hq
  rcases mem_candsL.mp hw with ⟨e, he, rfl, rfl⟩ | ⟨it, hit, rl, hr, hd, ha, rfl⟩
  · have hg := Auto.goto_of_nodup hnd he
    obtain ⟨hp, hp0, _⟩ := hA.edge q hq e.1 e.2 hg
    have h2 := (hsym e he).1
    rw [decode_shift P A.n e.1 e.2 hp0]
    exact cellChk_shift hp hp0 (Nat.ne_of_gt (Nat.lt_of_lt_of_le (by decide : 0 < 2) h2))
      (Nat.ne_of_gt (Nat.lt_of_lt_of_le (by decide : 1 < 2) h2)) hg
  · obtain ⟨r, d⟩ := it
    rw [← rhsOf_of_get hr] at hd
    obtain ⟨hT, h01⟩ := laOK_iff.mp hL q hq _ hit hd a ha
    simp only at hd h01 hr
    subst hd
    rw [decode_red]
    by_cases h0 : r = 0
    · obtain ⟨rl0, hr0, _, hl0⟩ := hG.r0
      rw [h0, rhsOf_of_get hr0, hl0] at hit
      rw [if_pos h0, h01 h0]
      exact cellChk_acc hit
    · rw [if_neg h0]
      exact cellChk_red (Nat.pos_of_ne_zero h0) (rule_lt hr) hT hit

theorem genCell_chk (hR : ResSel res) (hG : GOK G nS) (hA : AOK G A) (hE : gotosOK nS A = true)
    (hL : laOK G A t = true) (hq : q < A.n) (a : Nat) :
    cellChk G A q a (cellOf res A.n (candsL G P A t q) a) = true := by
  unfold cellOf
  cases hf : foldCell res (candsOn (candsL G P A t q) a) with
  | none => exact cellChk_err G A q a
  | some w =>
    rcases foldCell_sel hR hf with hm | he
    · exact cand_chk hG hA hE hL hq (mem_candsOn.mp hm)
    · rw [decode_err A.n w he]; exact cellChk_err G A q a

/-- the goto part: a nonterminal edge is the only candidate of its cell (lookaheads are terminals, so
    no reduction is a candidate there; the goto list has no second edge on the symbol) -/
theorem genCell_nt (hA : AOK G A) (hE : gotosOK nS A = true) (hL : laOK G A t = true)
    (hq : q < A.n) {e : Sym × Nat} (he : e ∈ A.gts q) (hX : G.isT e.1 = false) :
    cellOf res A.n (candsL G P A t q) e.1 = (e.2 : Int) := by
  have hnd := (gotosOK_iff.mp hE q hq).1
  obtain ⟨_, hp0, _⟩ := hA.edge q hq e.1 e.2 (Auto.goto_of_nodup hnd he)
  have hred : (reducesL G P A t q).filter (fun c => c.1 == e.1) = [] := by
    refine List.filter_eq_nil_iff.mpr fun ⟨s, w⟩ hc hcx => ?_
    obtain ⟨it, hit, rl, hr, hd, ha, _⟩ := mem_reducesL.mp hc
    rw [← rhsOf_of_get hr] at hd
    rw [← beq_iff_eq.mp hcx, (laOK_iff.mp hL q hq it hit hd s ha).1] at hX
    cases hX
  have hsh : (shiftsL P A q).filter (fun c => c.1 == e.1) = [(e.1, P.shiftAct e.1 e.2)] := by
    rw [shiftsL, List.filter_map]
    exact congrArg _ (filter_fst_of_nodup hnd he)
  rw [cellOf, candsOn, candsL, List.filter_append, hsh, hred]
  exact decode_shift P A.n e.1 e.2 hp0

theorem maxCandsL_le {k : Nat} (h : maxCandsL G nS P A t ≤ k) {s : Nat} (hq : q < A.n) (hs : s < nS) :
    (candsOn (candsL G P A t q) s).length ≤ k := by
  have inner := fun q => le_foldl (α := Nat)
    (step := fun m s => max m (candsOn (candsL G P A t q) s).length) (fun m _ => Nat.le_max_left m _)
    (List.range nS)
  refine Nat.le_trans ((le_foldl (fun m q => (inner q m).1) (List.range A.n) 0).2 q
    (List.mem_range.mpr hq) _ fun m => ?_) h
  exact (inner q m).2 s (List.mem_range.mpr hs) _ fun m => Nat.le_max_right m _

theorem eq_single_of_le_one {α : Type} {l : List α} {x : α} (hl : l.length ≤ 1) (hx : x ∈ l) :
    l = [x] := by
  match l, hl, hx with
  | [y], _, hx => rw [List.mem_singleton.mp hx]
  | _ :: _ :: _, hl, _ => simp at hl

theorem genCell_unique (hM : maxCandsL G nS P A t ≤ 1) {a : Nat} (hq : q < A.n) (ha : a < nS)
    {w : Action} (hw : (a, w) ∈ candsL G P A t q) :
    cellOf res A.n (candsL G P A t q) a = decode A.n (some w) := by
  rw [cellOf, eq_single_of_le_one (maxCandsL_le hM hq ha) (mem_candsOn.mpr hw), foldCell_single]

/-- every branch of `Core.resolveConflict` returns one of the two actions, the error marker, or
    nothing: a case check over its `if`s, left to `grind` so that it does not depend on their nesting -/
theorem rc_sel (a b x : Action) (h : Core.resolveConflict a b = some x) : x = a ∨ x = b ∨ x.ty = 2 := by
  unfold Core.resolveConflict at h
  grind

theorem ud_sel (a b : Action) : Core.useDefault a b = a ∨ Core.useDefault a b = b := by
  unfold Core.useDefault
  grind

theorem pairWinner_sel : ResSel Core.pairWinner := by
  intro a b
  unfold Core.pairWinner
  cases h : Core.resolveConflict a b with
  | none => exact (ud_sel a b).imp_right .inl
  | some x => exact rc_sel a b x h

end Y.GT
