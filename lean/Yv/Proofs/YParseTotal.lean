import Yv.Model.YParse
/-! C13 (parser half): the fuel `2 * toks.size + 10` that `YParse.parse` hands to its loops is never
    used up.  Every loop gets an instrumented twin (suffix `I`) that additionally reports whether
    the run reached `fuel = 0` somewhere; the twins compute the same results as the model
    (`…I_fst`), and with the model's own fuel the flag is `false`.

    Potential: `P.bound p = (toks.size - idx + peek) + (if p is parked at the end then 0 else 1)`.
    The loops need `bound < fuel` only, and at the start `bound ≤ toks.size + 1` (used in `C13_parse_total`):
    the exact value `2 * toks.size + 10` plays no part, any fuel above `toks.size + 1` would do. -/
namespace YParse
open YLex

/-- tokens still deliverable: unread part of the array plus the peek buffer -/
def P.m (p : P) : Nat := p.toks.size - p.idx + p.peek

/-- parked at the end: nothing buffered, array exhausted, and both `a0` and `cur` already are EOF -/
def P.atEnd (p : P) : Prop :=
  p.peek = 0 ∧ p.toks.size ≤ p.idx ∧ p.a0.kind = .eof ∧ p.cur.kind = .eof

instance (p : P) : Decidable p.atEnd := by unfold P.atEnd; infer_instance

def P.bound (p : P) : Nat := p.m + if p.atEnd then 0 else 1

theorem P.atEnd.m_eq {p : P} (h : p.atEnd) : p.m = 0 := by
  obtain ⟨h1, h2, _, _⟩ := h
  unfold P.m; omega

theorem P.atEnd.cur_eof {p : P} (h : p.atEnd) : p.cur.kind = .eof := h.2.2.2

theorem P.atEnd.is {p : P} (h : p.atEnd) (k : Kind) : p.is k = (Kind.eof == k) := by
  rw [P.is, h.cur_eof]

theorem bound_le_of {p q : P} (hm : q.m ≤ p.m) (he : p.atEnd → q.atEnd) : q.bound ≤ p.bound := by
  unfold P.bound
  by_cases hp : p.atEnd
  · rw [if_pos hp, if_pos (he hp)]; omega
  · rw [if_neg hp]; split <;> omega

theorem bound_le_m (p : P) : p.bound ≤ p.m + 1 := by
  unfold P.bound; split <;> omega

theorem next_of_peek {p : P} (h : 0 < p.peek) :
    p.next = { p with peek := p.peek - 1,
                      cur := if p.peek - 1 == 0 then p.a0 else if p.peek - 1 == 1 then p.a1 else zeroTok } := by
  unfold P.next
  simp only [gt_iff_lt, h, if_true]

/-! `next` delivers a buffered token, reads one, or, at the end, answers EOF. -/

theorem next_m_pos {p : P} (h : 0 < p.m) : p.next.m + 1 = p.m := by
  unfold P.m at h ⊢
  unfold P.next
  split
  · dsimp only; omega
  · split
    · next t ht => have := (Array.getElem?_eq_some_iff.1 ht).1; dsimp only; omega
    · next ht => have := Array.getElem?_eq_none_iff.1 ht; omega

theorem next_m_zero {p : P} (h : p.m = 0) : p.next.atEnd := by
  unfold P.m at h
  unfold P.next
  split
  · omega
  · split
    · next t ht => have := (Array.getElem?_eq_some_iff.1 ht).1; omega
    · next hp ht =>
      have h0 : p.peek = 0 := by omega
      exact ⟨h0, Array.getElem?_eq_none_iff.1 ht, rfl, by simp [h0]⟩

theorem next_m_le (p : P) : p.next.m ≤ p.m := by
  by_cases h : 0 < p.m
  · have := next_m_pos h; omega
  · have := (next_m_zero (by omega : p.m = 0)).m_eq; omega

theorem next_bound_le (p : P) : p.next.bound ≤ p.bound :=
  bound_le_of (next_m_le p) fun h => next_m_zero h.m_eq

theorem next_bound_lt {p : P} (h : ¬ p.atEnd) : p.next.bound < p.bound := by
  unfold P.bound
  rw [if_neg h]
  by_cases hz : p.m = 0
  · have hq := next_m_zero hz
    rw [if_pos hq, hq.m_eq]; omega
  · have := next_m_pos (p := p) (by omega)
    split <;> omega

theorem is_eq {p : P} {k : Kind} : p.is k = true ↔ p.cur.kind = k := by
  simp [P.is]


/-! record updates of `defs` are invisible to the potential -/
@[simp] theorem m_defs (p : P) (d : List String) : ({ p with defs := d } : P).m = p.m := rfl
@[simp] theorem atEnd_defs (p : P) (d : List String) : ({ p with defs := d } : P).atEnd = p.atEnd := rfl
@[simp] theorem bound_defs (p : P) (d : List String) : ({ p with defs := d } : P).bound = p.bound := rfl
@[simp] theorem is_defs (p : P) (d : List String) (k : Kind) : ({ p with defs := d } : P).is k = p.is k := rfl
@[simp] theorem cur_defs (p : P) (d : List String) : ({ p with defs := d } : P).cur = p.cur := rfl

theorem next_defs (p : P) (d : List String) : ({ p with defs := d } : P).next = { p.next with defs := d } := by
  unfold P.next
  by_cases h : p.peek > 0
  · simp only [h, if_true]
  · simp only [h, if_false]
    cases p.toks[p.idx]? <;> rfl

@[simp] theorem bound_next_defs (p : P) (d : List String) :
    ({ p with defs := d } : P).next.bound = p.next.bound := by
  rw [next_defs]; rfl

@[simp] theorem cur_next_defs (p : P) (d : List String) :
    ({ p with defs := d } : P).next.cur = p.next.cur := by
  rw [next_defs]

@[simp] theorem is_next_defs (p : P) (d : List String) (k : Kind) :
    ({ p with defs := d } : P).next.is k = p.next.is k := by
  rw [next_defs]; rfl

theorem backup_bound (p : P) : p.backup.bound ≤ p.bound + 2 := by
  have h1 := bound_le_m p.backup
  have h2 : p.backup.m = p.m + 1 := by simp only [P.backup, P.m]; omega
  have h3 : p.m ≤ p.bound := by unfold P.bound; omega
  omega

theorem next_backup (p : P) : p.backup.next =
    { p with cur := if p.peek == 0 then p.a0 else if p.peek == 1 then p.a1 else zeroTok } := by
  rw [next_of_peek (by simp [P.backup])]
  simp [P.backup]

theorem next_backup_bound (p : P) : p.backup.next.bound ≤ p.bound := by
  rw [next_backup]
  apply bound_le_of
  · exact Nat.le_refl _
  · rintro ⟨h1, h2, h3, h4⟩
    refine ⟨h1, h2, h3, ?_⟩
    simp [h1, h3]

theorem next_backup2 (q : P) (t : Tok) : (q.backup2 t).next = { q with a1 := t, peek := 1, cur := t } := by
  rw [next_of_peek (by simp [P.backup2])]
  simp [P.backup2]

theorem next_next_backup2 (q : P) (t : Tok) :
    (q.backup2 t).next.next = { q with a1 := t, peek := 0, cur := q.a0 } := by
  rw [next_backup2, next_of_peek (by simp)]
  simp

theorem cur_next_backup2 (q : P) (t : Tok) : (q.backup2 t).next.cur = t := by
  rw [next_backup2]

theorem next_next_backup2_bound (q : P) (t : Tok) : (q.backup2 t).next.next.bound ≤ q.bound := by
  rw [next_next_backup2]
  apply bound_le_of
  · simp only [P.m]; omega
  · rintro ⟨h1, h2, h3, h4⟩
    exact ⟨rfl, h2, h3, h3⟩

/-- the early exit of `ruleLoop` (identifier followed by `:`) leaves one token buffered; the potential
    still does not exceed the one at the loop head -/
theorem next_backup2_bound {p : P} (t : Tok) (h : p.next.cur.kind ≠ .eof) :
    (p.next.backup2 t).next.bound ≤ p.bound := by
  have hm : p.next.m + 1 = p.m := next_m_pos (Nat.pos_of_ne_zero fun h0 => h (next_m_zero h0).cur_eof)
  have hp : p.bound = p.m + 1 := by
    unfold P.bound; rw [if_neg fun he => by have := he.m_eq; omega]
  have h1 := bound_le_m (p.next.backup2 t).next
  have h2 : (p.next.backup2 t).next.m ≤ p.next.m + 1 := by
    rw [next_backup2]; simp only [P.m]; omega
  omega

theorem expect_bound (p : P) (k : Kind) : (p.expect k).bound ≤ p.bound := by
  unfold P.expect; split
  · exact next_bound_le p
  · exact Nat.le_refl _

theorem optTag_bound (p : P) : (optTag p).1.bound ≤ p.bound := by
  unfold optTag; split
  · exact Nat.le_trans (expect_bound _ _) (Nat.le_trans (next_bound_le _) (next_bound_le _))
  · exact Nat.le_refl _

/-! ## instrumented twins: same code, plus a flag "some loop reached `fuel = 0`" -/

def tokendefLoopI : Nat → P → String → List Ident → (P × List Ident) × Bool
  | 0, p, _, acc => ((p, acc), true)
  | fuel+1, p, tag, acc =>
    if p.is .identifier then
      let name := p.cur.value
      let p := p.next
      let (p, value, alias) :=
        if p.is .number then (p, atoi p.cur.value, "")
        else if p.is .charater || p.is .stringKind then (p, (0 : Int), p.cur.value)
        else (p.backup, (0 : Int), "")
      let p := { p with defs := name :: p.defs }
      tokendefLoopI fuel p.next tag (acc ++ [⟨name, value, tag, alias⟩])
    else if p.is .charater then
      let v := p.cur.value
      let p := { p with defs := opName v :: p.defs }
      tokendefLoopI fuel p.next tag (acc ++ [⟨opName v, firstByte v, tag, v⟩])
    else ((p, acc), false)

def parseTokendefI (fuel : Nat) (p : P) : (P × List Ident) × Bool :=
  let (p, tag) := optTag p.next
  tokendefLoopI fuel p tag []

def precLoopI : Nat → P → String → Nat → List Ident → List PrecDef → (P × List Ident × List PrecDef) × Bool
  | 0, p, _, _, ids, res => ((p, ids, res), true)
  | fuel+1, p, tag, assoc, ids, res =>
    let p := p.next
    if p.is .identifier || p.is .charater then
      let v := p.cur.value
      let (name, value) : String × Int := if p.is .charater then (opName v, firstByte v) else (v, 0)
      let (p, ids) := if p.defs.contains name then (p, ids)
        else ({ p with defs := name :: p.defs }, ids ++ [⟨name, value, tag, ""⟩])
      precLoopI fuel p tag assoc ids (res ++ [⟨name, assoc⟩])
    else ((p, ids, res), false)

def parsePrecListI (fuel : Nat) (p : P) : (P × List Ident × List PrecDef) × Bool :=
  let assoc := if p.is .leftAssoc then 1 else if p.is .rightAssoc then 2 else 3
  let (p, tag) := optTag p.next
  precLoopI fuel p.backup tag assoc [] []

def typeLoopI : Nat → P → String → List TypeDef → (P × List TypeDef) × Bool
  | 0, p, _, acc => ((p, acc), true)
  | fuel+1, p, tag, acc =>
    if p.is .identifier then typeLoopI fuel p.next tag (acc ++ [⟨p.cur.value, tag⟩])
    else ((p, acc), false)

def parseTypeListI (fuel : Nat) (p : P) : (P × List TypeDef) × Bool :=
  let (p, tag) := optTag p.next
  typeLoopI fuel p tag []

def declLoopI : Nat → P → Decl → Option (P × Decl) × Bool
  | 0, _, _ => (none, true)
  | fuel+1, p, d =>
    if p.is .eof || p.is .section then (some (p, d), false)
    else if p.is .error then (none, false)
    else
      let d := if p.is .unionDir then { d with union := p.cur.value } else d
      let d := if p.is .codeQuote then { d with code := d.code ++ p.cur.value } else d
      if p.is .tokenDir then
        let r := parseTokendefI fuel p
        let r2 := declLoopI fuel r.1.1 { d with tokDefs := d.tokDefs ++ [r.1.2] }
        (r2.1, r.2 || r2.2)
      else if p.is .leftAssoc || p.is .rightAssoc || p.is .noneAssoc || p.is .precedence then
        let r := parsePrecListI fuel p
        let d := if r.1.2.1.isEmpty then d else { d with tokDefs := d.tokDefs ++ [r.1.2.1] }
        let r2 := declLoopI fuel r.1.1 { d with precDefs := d.precDefs ++ [r.1.2.2] }
        (r2.1, r.2 || r2.2)
      else if p.is .typeDir then
        let r := parseTypeListI fuel p
        let r2 := declLoopI fuel r.1.1 { d with typeDefs := d.typeDefs ++ r.1.2 }
        (r2.1, r.2 || r2.2)
      else
        let (p, d) := if p.is .startDir then
            let p := p.next
            (p, { d with start := if p.is .identifier then p.cur.value else "" })
          else (p, d)
        declLoopI fuel p.next d

def ruleLoopI : Nat → P → String → RuleDef → List Elem → List RuleDef → List Ident → RR × Bool
  | 0, p, _, _, _, res, ids => (⟨p, some res, ids⟩, true)
  | fuel+1, p, left, rule, rp, res, ids =>
    let t1 := p.cur
    let p := p.next
    let t2 := p.cur
    let p := p.backup2 t1
    if t1.kind == .ruleEnd || (t1.kind == .identifier && t2.kind == .ruleDefine) then
      let p := p.next
      let p := if p.is .ruleEnd then p.next else p
      (⟨p, some (res ++ [rule]), ids⟩, false)
    else
      let p := p.next
      match p.cur.kind with
      | .charater =>
        let name := opName p.cur.value
        let rp := rp ++ [⟨1, name⟩]
        let (p, ids) := if p.defs.contains name then (p, ids)
          else ({ p with defs := name :: p.defs }, ids ++ [⟨name, firstByte p.cur.value, "", ""⟩])
        ruleLoopI fuel p.next left { rule with rhs := rp } rp res ids
      | .identifier =>
        let rp := rp ++ [⟨1, p.cur.value⟩]
        ruleLoopI fuel p.next left { rule with rhs := rp } rp res ids
      | .actionQuote =>
        let rp := rp ++ [⟨2, p.cur.value⟩]
        ruleLoopI fuel p.next left { rule with rhs := rp } rp res ids
      | .ruleOr =>
        ruleLoopI fuel p.next left { lhs := left } [] (res ++ [rule]) ids
      | .precDir =>
        let p := p.next
        if p.is .identifier then
          ruleLoopI fuel p.next left { rule with precSym := p.cur.value, rhs := rp } rp res ids
        else if p.is .charater then
          ruleLoopI fuel p.next left { rule with precSym := opName p.cur.value, rhs := rp } rp res ids
        else (⟨p, none, []⟩, false)
      | _ => (⟨p, some (res ++ [rule]), ids⟩, false)

def parseRuleI (fuel : Nat) (p : P) : RR × Bool :=
  if p.is .identifier then
    let left := p.cur.value
    let p := p.next.expect .ruleDefine
    ruleLoopI fuel p left { lhs := left } [] [] []
  else (⟨p.backup, none, []⟩, false)

def rulesLoopI : Nat → P → List RuleDef → List (List Ident) → (P × List RuleDef × List (List Ident)) × Bool
  | 0, p, rs, tds => ((p, rs, tds), true)
  | fuel+1, p, rs, tds =>
    let r := parseRuleI fuel p
    match r.1.rules with
    | none => ((r.1.p, rs, tds), r.2)
    | some l =>
      let r2 := rulesLoopI fuel r.1.p (rs ++ l) (if r.1.ids.isEmpty then tds else tds ++ [r.1.ids])
      (r2.1, r.2 || r2.2)

/-- instrumented run of the whole parser: the model's result and "some loop ran out of fuel" -/
structure PI where
  result : Option Root
  exhausted : Bool

def parseI (src : String) : PI :=
  let (toks, _) := lexAll src
  let fuel := 2 * toks.size + 10
  let p : P := { toks := toks, inputLen := src.length }
  let r1 := declLoopI fuel p.next {}
  match r1.1 with
  | none => ⟨none, r1.2⟩
  | some (p, d) =>
    if !p.is .section then ⟨none, r1.2⟩
    else
      let r2 := rulesLoopI fuel p.next [] []
      ⟨(match r2.1 with
        | (p, rs, tds) =>
          if !p.is .section && !p.is .eof then none
          else some { decl := { d with tokDefs := d.tokDefs ++ tds }, rules := rs,
                      rest := String.ofList (src.toList.drop p.cur.endAt) }),
       r1.2 || r2.2⟩

/-! ## the twins compute the model's results -/

theorem tokendefLoopI_fst (fuel : Nat) (p : P) (tag : String) (acc : List Ident) :
    (tokendefLoopI fuel p tag acc).1 = tokendefLoop fuel p tag acc := by
  induction fuel generalizing p acc with
  | zero => rfl
  | succ n ih =>
    rw [tokendefLoopI, tokendefLoop]
    simp only [apply_ite Prod.fst, ih]

theorem precLoopI_fst (fuel : Nat) (p : P) (tag : String) (assoc : Nat) (ids : List Ident) (res : List PrecDef) :
    (precLoopI fuel p tag assoc ids res).1 = precLoop fuel p tag assoc ids res := by
  induction fuel generalizing p ids res with
  | zero => rfl
  | succ n ih =>
    rw [precLoopI, precLoop]
    simp only [apply_ite Prod.fst, ih]

theorem typeLoopI_fst (fuel : Nat) (p : P) (tag : String) (acc : List TypeDef) :
    (typeLoopI fuel p tag acc).1 = typeLoop fuel p tag acc := by
  induction fuel generalizing p acc with
  | zero => rfl
  | succ n ih =>
    rw [typeLoopI, typeLoop]
    simp only [apply_ite Prod.fst, ih]

theorem parseTokendefI_fst (fuel : Nat) (p : P) : (parseTokendefI fuel p).1 = parseTokendef fuel p :=
  tokendefLoopI_fst ..

theorem parsePrecListI_fst (fuel : Nat) (p : P) : (parsePrecListI fuel p).1 = parsePrecList fuel p :=
  precLoopI_fst ..

theorem parseTypeListI_fst (fuel : Nat) (p : P) : (parseTypeListI fuel p).1 = parseTypeList fuel p :=
  typeLoopI_fst ..

theorem declLoopI_fst (fuel : Nat) (p : P) (d : Decl) : (declLoopI fuel p d).1 = declLoop fuel p d := by
  induction fuel generalizing p d with
  | zero => rfl
  | succ n ih =>
    rw [declLoopI, declLoop]
    simp only [apply_ite Prod.fst, ih, parseTokendefI_fst, parsePrecListI_fst, parseTypeListI_fst]

theorem ruleLoopI_fst (fuel : Nat) (p : P) (left : String) (rule : RuleDef) (rp : List Elem)
    (res : List RuleDef) (ids : List Ident) :
    (ruleLoopI fuel p left rule rp res ids).1 = ruleLoop fuel p left rule rp res ids := by
  induction fuel generalizing p rule rp res ids with
  | zero => rfl
  | succ n ih =>
    rw [ruleLoopI, ruleLoop]
    simp only [apply_ite Prod.fst]
    congr 1
    split <;> simp only [*, apply_ite Prod.fst]

theorem parseRuleI_fst (fuel : Nat) (p : P) : (parseRuleI fuel p).1 = parseRule fuel p := by
  rw [parseRuleI, parseRule]
  simp only [apply_ite Prod.fst, ruleLoopI_fst]

theorem rulesLoopI_fst (fuel : Nat) (p : P) (rs : List RuleDef) (tds : List (List Ident)) :
    (rulesLoopI fuel p rs tds).1 = rulesLoop fuel p rs tds := by
  induction fuel generalizing p rs tds with
  | zero => rfl
  | succ n ih =>
    rw [rulesLoopI, rulesLoop]
    simp only [parseRuleI_fst]
    split <;> simp only [*]

/-! ## with enough fuel no twin reports exhaustion

If the potential at the loop head is below the fuel, the flag is `false` and the potential of the
state handed back does not exceed the one at the head: a branch that goes round again has taken a
token from a state that was not at the end.

`declLoopI` goes by `fun_induction`: `split` on its unfolded body substitutes the record `d` built by
the first two tests into every later branch, and each step then costs seconds.
`ruleLoopI_ok` unfolds instead: its bounds speak of `p.next`, `(p.next.backup2 p.cur).next`, …, which
`fun_induction` would replace by fresh variables that `omega` cannot connect to them. -/

/-- the twin reports no exhaustion and hands back a state of potential at most `b` -/
def Fits {α : Type} (b : Nat) (r : (P × α) × Bool) : Prop := r.2 = false ∧ r.1.1.bound ≤ b

theorem Fits.mono {α : Type} {b c : Nat} {r : (P × α) × Bool} (h : Fits b r) (hbc : b ≤ c) : Fits c r :=
  ⟨h.1, Nat.le_trans h.2 hbc⟩

theorem tokendefLoopI_ok (fuel : Nat) (p : P) (tag : String) (acc : List Ident) (h : p.bound < fuel) :
    Fits p.bound (tokendefLoopI fuel p tag acc) := by
  fun_induction tokendefLoopI fuel p tag acc with
  | case1 => omega
  | case2 n p _ _ hid _ q q' _ _ hq _ ih =>
    have h1 : q.bound < p.bound := next_bound_lt fun he => by simp [he.is] at hid
    have h2 : q'.next.bound ≤ q.bound := by
      split at hq
      · cases hq; exact next_bound_le _
      · split at hq <;> cases hq
        · exact next_bound_le _
        · exact next_backup_bound _
    rw [bound_next_defs] at ih
    exact (ih (by omega)).mono (by omega)
  | case3 n p _ _ _ hch _ _ ih =>
    have h1 := next_bound_lt (p := p) fun he => by simp [he.is] at hch
    rw [bound_next_defs] at ih
    exact (ih (by omega)).mono (by omega)
  | case4 => exact ⟨rfl, Nat.le_refl _⟩

theorem typeLoopI_ok (fuel : Nat) (p : P) (tag : String) (acc : List TypeDef) (h : p.bound < fuel) :
    Fits p.bound (typeLoopI fuel p tag acc) := by
  fun_induction typeLoopI fuel p tag acc with
  | case1 => omega
  | case2 n p _ _ hid ih =>
    have h1 := next_bound_lt (p := p) fun he => by simp [he.is] at hid
    exact (ih (by omega)).mono (by omega)
  | case3 => exact ⟨rfl, Nat.le_refl _⟩

/-- A conditional update of `defs` (`precLoop` and `ruleLoop` record a name not seen before) leaves the
    potential after `next` unchanged. -/
theorem next_bound_of_ite_defs {α : Type} {c : Prop} [Decidable c] {q q' : P} {a b r : α} {d : List String}
    (h : (if c then (q, a) else (({ q with defs := d } : P), b)) = (q', r)) :
    q'.next.bound = q.next.bound := by
  split at h <;> cases h
  · rfl
  · exact bound_next_defs _ _

/-- `precLoop` starts every round with `next`, so its potential is the one after that `next` -/
theorem precLoopI_ok (fuel : Nat) (p : P) (tag : String) (assoc : Nat) (ids : List Ident) (res : List PrecDef)
    (h : p.next.bound < fuel) : Fits p.next.bound (precLoopI fuel p tag assoc ids res) := by
  fun_induction precLoopI fuel p tag assoc ids res with
  | case1 => omega
  | case2 n p _ _ _ _ q hq _ _ _ _ q' _ hq' ih =>
    have h1 : q.next.bound < p.next.bound := next_bound_lt fun he => by simp [he.is] at hq
    rw [next_bound_of_ite_defs hq'] at ih
    exact (ih (by omega)).mono (by omega)
  | case3 => exact ⟨rfl, Nat.le_refl _⟩

/-- The directive parsers step over the directive word and an optional tag and then run their loop;
    `q` is the state whose potential the loop's lemma speaks of. -/
theorem Fits.after_head {α : Type} {p q : P} {fuel : Nat} {r : (P × α) × Bool} (hne : ¬ p.atEnd)
    (h : p.bound ≤ fuel) (hq : q.bound ≤ (optTag p.next).1.bound) (hr : q.bound < fuel → Fits q.bound r) :
    r.2 = false ∧ r.1.1.bound < p.bound := by
  have h1 := next_bound_lt hne
  have h2 := optTag_bound p.next
  have := hr (by omega)
  exact ⟨this.1, by have := this.2; omega⟩

theorem decl_step {r : Option (P × Decl) × Bool} {e : Bool} {b c : Nat} (he : e = false) (hbc : b ≤ c)
    (hr : r.2 = false ∧ ∀ q d, r.1 = some (q, d) → q.bound ≤ b) :
    (e || r.2) = false ∧ ∀ q d, r.1 = some (q, d) → q.bound ≤ c :=
  ⟨by rw [he, hr.1]; rfl, fun q d hq => Nat.le_trans (hr.2 q d hq) hbc⟩

theorem declLoopI_ok (fuel : Nat) (p : P) (d : Decl) (h : p.bound < fuel) :
    (declLoopI fuel p d).2 = false ∧
    ∀ q d', (declLoopI fuel p d).1 = some (q, d') → q.bound ≤ p.bound := by
  fun_induction declLoopI fuel p d with
  | case1 => omega
  | case2 => exact ⟨rfl, fun q d' e => by cases e; exact Nat.le_refl _⟩
  | case3 => exact ⟨rfl, fun q d' e => by cases e⟩
  | case4 n p _ hstop _ _ _ _ r _ ih =>
    obtain ⟨hr1, hr2⟩ := Fits.after_head (r := r) (fun he => by simp [he.is] at hstop) (Nat.le_of_lt_succ h)
      (Nat.le_refl _) (tokendefLoopI_ok n _ _ _)
    exact decl_step hr1 (Nat.le_of_lt hr2) (ih (by omega))
  | case5 n p _ hstop _ _ _ _ _ r _ _ ih =>
    obtain ⟨hr1, hr2⟩ := Fits.after_head (r := r) (fun he => by simp [he.is] at hstop) (Nat.le_of_lt_succ h)
      (next_backup_bound _) (precLoopI_ok n _ _ _ _ _)
    exact decl_step hr1 (Nat.le_of_lt hr2) (ih (by omega))
  | case6 n p _ hstop _ _ _ _ _ _ r _ ih =>
    obtain ⟨hr1, hr2⟩ := Fits.after_head (r := r) (fun he => by simp [he.is] at hstop) (Nat.le_of_lt_succ h)
      (Nat.le_refl _) (typeLoopI_ok n _ _ _)
    exact decl_step hr1 (Nat.le_of_lt hr2) (ih (by omega))
  | case7 n p _ hstop _ _ _ _ _ _ q _ hq ih =>
    have h1 := next_bound_lt (p := p) fun he => by simp [he.is] at hstop
    have h2 : q.next.bound < p.bound := by
      have := next_bound_le q
      split at hq <;> cases hq <;> omega
    exact decl_step (e := false) rfl (Nat.le_of_lt h2) (ih (by omega))

/-- `ruleLoop` may hand back a state with one re-delivered token at the very end of the input
    (potential + 1).  Its current token is then no identifier and `rulesLoop` stops at once: what
    counts for `rulesLoop` is the potential of a state that can start a rule. -/
def P.ruleBound (p : P) : Nat := if p.cur.kind = .identifier then p.bound else 0

theorem ruleBound_le (p : P) : p.ruleBound ≤ p.bound := by
  unfold P.ruleBound; split <;> omega

theorem ruleLoopI_ok (fuel : Nat) (p : P) (left : String) (rule : RuleDef) (rp : List Elem)
    (res : List RuleDef) (ids : List Ident) (h : p.bound < fuel) :
    (ruleLoopI fuel p left rule rp res ids).2 = false ∧
    (ruleLoopI fuel p left rule rp res ids).1.p.ruleBound ≤ p.bound := by
  induction fuel generalizing p rule rp res ids with
  | zero => omega
  | succ n ih =>
    have h1 := next_bound_le p
    have h2 := next_next_backup2_bound p.next p.cur
    rw [ruleLoopI]
    simp only
    split
    · next hc =>
      refine ⟨rfl, Nat.le_trans (ruleBound_le _) ?_⟩
      simp only
      split
      · omega
      · next hre =>
        rw [is_eq, cur_next_backup2] at hre
        exact next_backup2_bound _ fun he => by simp [he, hre] at hc
    · -- a round that goes on takes the current token again, and that was not the final EOF
      have go {k : Kind} (hk : (p.next.backup2 p.cur).next.cur.kind = k) (hne : k ≠ .eof) {q : P} {r : RR × Bool}
          (hq : q.bound ≤ (p.next.backup2 p.cur).next.next.bound)
          (hr : q.bound < n → r.2 = false ∧ r.1.p.ruleBound ≤ q.bound) :
          r.2 = false ∧ r.1.p.ruleBound ≤ p.bound := by
        have := next_bound_lt (p := p) fun he => hne (by rw [← hk, cur_next_backup2, he.cur_eof])
        have := hr (by omega)
        exact ⟨this.1, by omega⟩
      split
      · next hk => exact go hk (by decide) (Nat.le_of_eq (next_bound_of_ite_defs rfl)) (ih _ _ _ _ _)
      · next hk => exact go hk (by decide) (Nat.le_refl _) (ih _ _ _ _ _)
      · next hk => exact go hk (by decide) (Nat.le_refl _) (ih _ _ _ _ _)
      · next hk => exact go hk (by decide) (Nat.le_refl _) (ih _ _ _ _ _)
      · next hk =>
        have h3 := next_bound_le (p.next.backup2 p.cur).next.next
        split
        · exact go hk (by decide) h3 (ih _ _ _ _ _)
        · split
          · exact go hk (by decide) h3 (ih _ _ _ _ _)
          · exact ⟨rfl, Nat.le_trans (ruleBound_le _) (Nat.le_trans h2 h1)⟩
      · next _ hk _ _ _ => exact ⟨rfl, Nat.le_trans (Nat.le_of_eq (if_neg hk)) (Nat.zero_le _)⟩

theorem parseRuleI_ok (fuel : Nat) (p : P) (h : p.ruleBound ≤ fuel) :
    (parseRuleI fuel p).2 = false ∧
    ((parseRuleI fuel p).1.rules ≠ none → (parseRuleI fuel p).1.p.ruleBound < p.ruleBound) := by
  unfold parseRuleI
  split
  · next hid =>
    rw [show p.ruleBound = p.bound from if_pos (is_eq.mp hid)] at h ⊢
    have h1 := next_bound_lt (p := p) fun he => by simp [he.is] at hid
    have h2 := expect_bound p.next .ruleDefine
    have := ruleLoopI_ok fuel (p.next.expect .ruleDefine) p.cur.value { lhs := p.cur.value } [] [] [] (by omega)
    exact ⟨this.1, fun _ => Nat.lt_of_le_of_lt this.2 (by omega)⟩
  · exact ⟨rfl, fun hc => absurd rfl hc⟩

theorem rulesLoopI_ok (fuel : Nat) (p : P) (rs : List RuleDef) (tds : List (List Ident))
    (h : p.ruleBound < fuel) : (rulesLoopI fuel p rs tds).2 = false := by
  induction fuel generalizing p rs tds with
  | zero => omega
  | succ n ih =>
    have hr := parseRuleI_ok n p (by omega)
    rw [rulesLoopI]
    simp only
    split
    · exact hr.1
    · next l heq =>
      rw [hr.1, ih _ _ _ (by have := hr.2 (by rw [heq]; exact Option.some_ne_none _); omega)]
      rfl

end YParse
