/-! General facts about lists (indexing with a default, `range`, folds, keys) that several parts of the
    development use and core does not have. -/
namespace Y

theorem getD_mem {α : Type} {l : List α} {i : Nat} (d : α) (h : i < l.length) : l.getD i d ∈ l := by
  rw [List.getD_eq_getElem?_getD, List.getElem?_eq_getElem h]
  exact List.getElem_mem h

theorem getD_append_left {α : Type} {l e : List α} {i : Nat} (d : α) (h : i < l.length) :
    (l ++ e).getD i d = l.getD i d := by
  simp [List.getD_eq_getElem?_getD, List.getElem?_append_left h]

theorem getD_map_map {α β : Type} (f : α → β) (l : List (List α)) (i : Nat) :
    (l.map (List.map f)).getD i [] = (l.getD i []).map f := by
  simp only [List.getD_eq_getElem?_getD, List.getElem?_map]
  cases l[i]? <;> rfl

theorem getElem?_map_range {α : Type} (f : Nat → α) {n i : Nat} (h : i < n) :
    ((List.range n).map f)[i]? = some (f i) := by
  rw [List.getElem?_map, List.getElem?_range h]; rfl

theorem getD_map_range {α : Type} (f : Nat → α) (n i : Nat) (d : α) :
    ((List.range n).map f).getD i d = if i < n then f i else d := by
  by_cases h : i < n <;> simp [List.getD_eq_getElem?_getD, h]

theorem map_range_inj {α : Type} {f g : Nat → α} {n m : Nat}
    (h : (List.range n).map f = (List.range m).map g) : n = m ∧ ∀ q, q < n → f q = g q := by
  have hn : n = m := by simpa using congrArg List.length h
  subst hn
  exact ⟨rfl, fun q hq => List.map_inj_left.1 h q (List.mem_range.2 hq)⟩

theorem ext_getD {α : Type} {l l' : List (List α)} (hn : l.length = l'.length)
    (h : ∀ i, i < l.length → l.getD i [] = l'.getD i []) : l = l' := by
  apply List.ext_getElem hn
  intro i h1 h2
  simpa [h1, h2] using h i h1

/-- `map f` is injective on lists whose elements `f` tells apart -/
theorem map_inj_on {α β : Type} (f : α → β) : ∀ (l l' : List α),
    (∀ x ∈ l, ∀ y ∈ l', f x = f y → x = y) → l.map f = l'.map f → l = l'
  | [], [], _, _ => rfl
  | [], _ :: _, _, h => nomatch h
  | _ :: _, [], _, h => nomatch h
  | x :: l, y :: l', hf, h => by
    simp only [List.map_cons, List.cons.injEq] at h
    rw [hf x (by simp) y (by simp) h.1,
      map_inj_on f l l' (fun a ha b hb => hf a (by simp [ha]) b (by simp [hb])) h.2]

theorem mem_map_inj_on {α β : Type} (f : α → β) (l : List α) (x : α)
    (hf : ∀ y ∈ l, f y = f x → y = x) : f x ∈ l.map f ↔ x ∈ l := by
  rw [List.mem_map]
  exact ⟨fun ⟨y, hy, e⟩ => hf y hy e ▸ hy, fun hx => ⟨x, hx, rfl⟩⟩

theorem take_drop_inj {α : Type} {l l' : List α} {d d' : Nat} (hd : d ≤ l.length) (hd' : d' ≤ l'.length)
    (h1 : l.take d = l'.take d') (h2 : l.drop d = l'.drop d') : l = l' ∧ d = d' := by
  refine ⟨by rw [← List.take_append_drop d l, ← List.take_append_drop d' l', h1, h2], ?_⟩
  have := congrArg List.length h1
  rw [List.length_take, List.length_take] at this
  omega

/-- two elements of a list with pairwise different keys that have the same key are equal -/
theorem eq_of_key_eq {α κ : Type} (key : α → κ) {l : List α} (hd : (l.map key).Nodup) {a b : α}
    (ha : a ∈ l) (hb : b ∈ l) (hk : key a = key b) : a = b := by
  obtain ⟨i, hi, rfl⟩ := List.getElem_of_mem ha
  obtain ⟨j, hj, rfl⟩ := List.getElem_of_mem hb
  have : i = j := (List.getElem?_inj (by simpa using hi) hd).1 (by simp [hi, hj, hk])
  subst this; rfl

/-- a fold with an inflationary step is above its start value, and above every bound `b` that one of
    its steps reaches -/
theorem le_foldl {α : Type} {step : Nat → α → Nat} (infl : ∀ m x, m ≤ step m x) :
    ∀ (l : List α) (m : Nat), m ≤ l.foldl step m ∧
      ∀ x ∈ l, ∀ b, (∀ m, b ≤ step m x) → b ≤ l.foldl step m
  | [], m => ⟨Nat.le_refl _, nofun⟩
  | y :: ys, m => by
    obtain ⟨h1, h2⟩ := le_foldl infl ys (step m y)
    refine ⟨Nat.le_trans (infl m y) h1, fun x hx b hb => ?_⟩
    rcases List.mem_cons.mp hx with rfl | hx
    · exact Nat.le_trans (hb m) h1
    · exact h2 x hx b hb

theorem mem_le_foldl_max (l : List Nat) (b x : Nat) (h : x ∈ l) : x ≤ l.foldl max b :=
  (le_foldl Nat.le_max_left l b).2 x h x fun m => Nat.le_max_right m x

end Y
