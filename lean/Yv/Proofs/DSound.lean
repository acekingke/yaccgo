import Yv.Proofs.DStep
import Yv.Proofs.CertFacts
/-! Invariants of the concrete driver on a certified table: stack-path invariant, the handle
    lemma, the rightmost-derivation invariant.  On a certified table every step from an invariant
    configuration is a move of the LR automaton (`step_amove`; in particular never `crash`), and
    the invariants are shown to be kept by those moves (`Inv.next`). -/
namespace Y.D
open Y

variable {V : Type}

/-- entries above the bottom follow edges of the automaton -/
inductive PathOK (A : Auto) : List (Entry V) → Prop
  | bottom (v : V) : PathOK A [⟨0, 1, v⟩]
  | push (e : Entry V) (st : List (Entry V)) :
      PathOK A st → A.goto (stTop st) e.sym = some e.st → PathOK A (e :: st)

/-- the grammar symbols on the stack, bottom entry excluded, left to right -/
def ssyms : List (Entry V) → List Sym
  | [] => []
  | [_] => []
  | e :: f :: st => ssyms (f :: st) ++ [e.sym]

theorem ssyms_push (e : Entry V) {st : List (Entry V)} (h : st ≠ []) :
    ssyms (e :: st) = ssyms st ++ [e.sym] := by
  cases st with
  | nil => exact absurd rfl h
  | cons f st => rfl

theorem PathOK.ne_nil {A : Auto} {st : List (Entry V)} (h : PathOK A st) : st ≠ [] := by
  cases h <;> simp

theorem PathOK.top_lt {G : Grammar} {A : Auto} (hA : AOK G A) {st : List (Entry V)} (h : PathOK A st) :
    stTop st < A.n := by
  induction h with
  | bottom v => exact hA.npos
  | push e st hp hg ih => exact (hA.edge _ ih _ _ hg).1

/-- Handle lemma: an item `(r,d)` of the top state has its first `d` right-hand-side symbols on
    top of the stack, above a state that holds `(r,0)`. -/
theorem handle {G : Grammar} {A : Auto} (hA : AOK G A) :
    ∀ (d : Nat) (st : List (Entry V)) (r : Nat), PathOK A st → (⟨r, d⟩ : Item) ∈ A.its (stTop st) →
      d + 1 ≤ st.length ∧ ssyms st = ssyms (st.drop d) ++ (G.rhsOf r).take d ∧
      PathOK A (st.drop d) ∧ (⟨r, 0⟩ : Item) ∈ A.its (stTop (st.drop d)) := by
  intro d
  induction d with
  | zero =>
    intro st r hp hit
    exact ⟨List.length_pos_iff.mpr hp.ne_nil, by simp, hp, hit⟩
  | succ d ih =>
    intro st r hp hit
    cases hp with
    | bottom v => exact absurd (hA.s0_dot _ hit) (Nat.succ_ne_zero d)
    | push e st' hp' hg =>
      obtain ⟨_, _, hall⟩ := hA.edge _ (hp'.top_lt hA) _ _ hg
      obtain ⟨hx, hprev⟩ : (G.rhsOf r)[d]? = some e.sym ∧ (⟨r, d⟩ : Item) ∈ A.its (stTop st') :=
        (hall _ hit).resolve_left (Nat.succ_ne_zero d)
      obtain ⟨hlen, hsy, hpd, hr0⟩ := ih st' r hp' hprev
      refine ⟨Nat.succ_le_succ hlen, ?_, hpd, hr0⟩
      rw [List.drop_succ_cons, ssyms_push e hp'.ne_nil, hsy, List.take_add_one, hx,
        List.append_assoc]
      rfl

theorem handle_rhs {G : Grammar} {A : Auto} (hA : AOK G A) {st : List (Entry V)} {r : Nat} {rl : Rule}
    (hp : PathOK A st) (hrl : G.rules[r]? = some rl)
    (hit : (⟨r, rl.rhs.length⟩ : Item) ∈ A.its (stTop st)) :
    rl.rhs.length < st.length ∧ ssyms st = ssyms (st.drop rl.rhs.length) ++ rl.rhs ∧
    PathOK A (st.drop rl.rhs.length) ∧ (⟨r, 0⟩ : Item) ∈ A.its (stTop (st.drop rl.rhs.length)) := by
  have h := handle hA rl.rhs.length st r hp hit
  rwa [rhsOf_of_get hrl, List.take_length] at h

/-- the invariant of a run on input `w` (the tokens before the end marker).
    `term`: a remaining token is a column `≤ nT` other than `$`; 0 is allowed, because the generated
    `translate` returns 0 for a code it does not know (Builder/goCode.templ) and column 0 of a certified
    table holds only the error code.  `der`: the reductions so far are a rightmost derivation of `w`
    from the stack symbols followed by the remaining input — claimed only when no remaining token is 0,
    since a step of `RmDer` wants terminals to its right and 0 is none; at acceptance nothing remains
    and the guard is void. -/
structure Inv (G : Grammar) (A : Auto) (w : List Sym) (c : Cfg V) : Prop where
  path : PathOK A c.stack
  term : ∀ t ∈ c.rest, t.1 ≤ G.nT ∧ t.1 ≠ 1
  der : (∀ t ∈ c.rest, t.1 ≠ 0) → RmDer G (ssyms c.stack ++ c.rest.map Prod.fst) c.reds w
  cnt : c.req + c.rest.length = w.length + 1

theorem isT_of {G : Grammar} {a : Sym} (h1 : a ≤ G.nT) (h0 : a ≠ 0) : G.isT a = true := by
  unfold Grammar.isT
  simp only [Bool.and_eq_true, decide_eq_true_eq]
  exact ⟨Nat.pos_of_ne_zero h0, h1⟩

/-- the lookahead is a terminal column or 0 -/
theorem look_le {G : Grammar} {A : Auto} {w : List Sym} {ev : V} {c : Cfg V}
    (hG : 1 ≤ G.nT) (h : Inv G A w c) : (look ev c).1 ≤ G.nT := by
  cases hr : c.rest with
  | nil => rw [look_nil hr]; exact hG
  | cons x xs => rw [look_cons hr]; exact (h.term x (by simp [hr])).1

theorem pathOK_top0 {G : Grammar} {A : Auto} (hA : AOK G A) {st : List (Entry V)} (hp : PathOK A st)
    (h0 : stTop st = 0) : ∃ v, st = [⟨0, 1, v⟩] := by
  cases hp with
  | bottom v => exact ⟨v, rfl⟩
  | push e st' hp' hg => exact absurd h0 (hA.edge _ (hp'.top_lt hA) _ _ hg).2.1

theorem acc_syms {G : Grammar} {nS : Nat} {A : Auto} (hG : GOK G nS) (hA : AOK G A)
    {st : List (Entry V)} (hp : PathOK A st) (hit : (⟨0, 1⟩ : Item) ∈ A.its (stTop st)) :
    ∃ S₀, G.rules[0]? = some ⟨0, [S₀]⟩ ∧ ssyms st = [S₀] := by
  obtain ⟨S₀, h0⟩ := hG.start
  obtain ⟨_, hsy, hpd, hr0⟩ := handle_rhs hA hp h0 hit
  obtain ⟨v0, hbot⟩ := pathOK_top0 hA hpd (hA.start_only0 _ (hpd.top_lt hA) hr0)
  exact ⟨S₀, h0, by rw [hsy, hbot]; rfl⟩

/-- The moves of the LR automaton `A` as the driver performs them on `c`: report an error; accept
    at the end of the input in a state holding the completed start item; shift the next token
    along an edge; reduce by a user rule whose complete item is in the top state and take the
    goto from the uncovered state. -/
inductive AMove (G : Grammar) (A : Auto) (sem : Nat → List V → V) (ev : V) (c : Cfg V) :
    StepR V → Prop
  | err : AMove G A sem ev c (.err c)
  | acc {top : Entry V} {below : List (Entry V)} (hst : c.stack = top :: below) (hrest : c.rest = [])
      (hit : (⟨0, 1⟩ : Item) ∈ A.its top.st) : AMove G A sem ev c (.acc top.val c)
  | shift {x : Sym × V} {xs : List (Sym × V)} {p : Nat} (hrest : c.rest = x :: xs)
      (hx : G.isT x.1 = true) (hg : A.goto (stTop c.stack) x.1 = some p) :
      AMove G A sem ev c (.next { c with
        stack := ⟨p, x.1, x.2⟩ :: c.stack, rest := xs, req := c.req + 1,
        trace := .shift x.1 p :: c.trace })
  | reduce {r : Nat} {rl : Rule} {p : Nat} (hr0 : r ≠ 0) (hrl : G.rules[r]? = some rl)
      (hnt : G.isT rl.lhs = false)
      (hit : (⟨r, rl.rhs.length⟩ : Item) ∈ A.its (stTop c.stack))
      (hn : rl.rhs.length < c.stack.length)
      (hg : A.goto (stTop (c.stack.drop rl.rhs.length)) rl.lhs = some p) :
      AMove G A sem ev c (.next { c with
        stack := ⟨p, rl.lhs, sem r ((c.stack.take rl.rhs.length).reverse.map Entry.val)⟩ ::
                 c.stack.drop rl.rhs.length,
        reds := r :: c.reds,
        trace := .shift rl.lhs p :: .reduce (look ev c).1 r p :: c.trace })

/-- On a certified table every step from an invariant configuration is a move of the automaton. -/
theorem step_amove {G : Grammar} {nS : Nat} {A : Auto} {T : Dense} {w : List Sym}
    (sem : Nat → List V → V) (eofVal : V)
    (hG : GOK G nS) (hA : AOK G A) (hT : TOK G nS A T) {c : Cfg V} (h : Inv G A w c) :
    AMove G A sem eofVal c (step (dparams G T A.n sem eofVal) c) := by
  have key : ∀ {r}, Move (dparams G T A.n sem eofVal) c r → AMove G A sem eofVal c r →
      AMove G A sem eofVal c (step (dparams G T A.n sem eofVal) c) := fun hm ha => hm.step_eq ▸ ha
  have hne := h.path.ne_nil
  obtain ⟨v, hv⟩ := hT.total _ _ (h.path.top_lt hA)
    (Nat.lt_of_le_of_lt (look_le (ev := eofVal) hG.nT1 h) hG.nTS)
  by_cases he : v = errCode A.n
  · subst he
    exact key (.err hne hv) .err
  by_cases hacc : v = accCode A.n
  · subst hacc
    obtain ⟨ha1, hit⟩ := hT.acc _ _ hv
    obtain ⟨top, below, hst⟩ := List.exists_cons_of_ne_nil hne
    rw [hst] at hv hit
    refine key (.acc hst hv (acc_ne_err A.n)) (.acc hst ?_ hit)
    cases hr : c.rest with
    | nil => rfl
    | cons x xs => rw [look_cons hr] at ha1; exact absurd ha1 (h.term x (by simp [hr])).2
  by_cases hpos : 0 < v
  · obtain ⟨ha1, hgoto⟩ := hT.shift _ _ _ hv he hacc hpos
    refine key (.shift hne hv he hacc hpos) ?_
    cases hr : c.rest with
    | nil => rw [look_nil hr] at ha1; exact absurd rfl ha1
    | cons x xs =>
      rw [look_cons hr] at hv hgoto
      have hx := isT_of (h.term x (by simp [hr])).1 (fun h0 => he (hT.col0 _ _ (h0 ▸ hv)))
      simpa only [look_cons hr, List.tail_cons] using
        AMove.shift (sem := sem) (ev := eofVal) hr hx hgoto
  · obtain ⟨hr1, hrlt, _, hit⟩ := hT.red _ _ _ hv he hacc hpos
    obtain ⟨rl, hrl⟩ := rule_of_lt hrlt
    rw [rhsOf_of_get hrl] at hit
    obtain ⟨hlen, _, hpd, hr0⟩ := handle_rhs hA h.path hrl hit
    have hrne : (-v).toNat ≠ 0 := Nat.ne_of_gt hr1
    have hqu := hpd.top_lt hA
    obtain ⟨jt, hj, hjx⟩ := hA.just _ hqu _ hr0 rfl hrne
    rw [lhsOf_of_get hrl] at hjx
    obtain ⟨p, hgp, _⟩ := hA.gotoC _ hqu _ hj _ hjx
    have hrule : (dparams G T A.n sem eofVal).rule (-v).toNat = some (rl.lhs, rl.rhs.length) := by
      simp only [dparams, hrne, hrl, if_false, Option.map_some]
    have hnt := hG.lhsNT _ _ hrl hr1
    exact key
      (.reduce hv he hacc hpos hrule hlen (hT.ntEdge _ hqu _ _ hgp hnt)
        (Int.not_lt.mpr (Int.natCast_nonneg p)))
      (.reduce hrne hrl hnt hit hlen ((Int.toNat_natCast p).symm ▸ hgp))

theorem Inv.next {G : Grammar} {A : Auto} {w : List Sym} {sem : Nat → List V → V} {ev : V}
    (hA : AOK G A) {c c' : Cfg V} (h : Inv G A w c) (hs : AMove G A sem ev c (.next c')) :
    Inv G A w c' := by
  obtain ⟨hpath, hterm, hder, hcnt⟩ := h
  cases hs with
  | @shift x xs p hrest hx hg =>
    have hsub : ∀ t ∈ xs, t ∈ c.rest := fun t ht => hrest ▸ List.mem_cons_of_mem _ ht
    refine ⟨.push _ _ hpath hg, fun t ht => hterm t (hsub t ht), fun hz => ?_, ?_⟩
    · have hd := hder (fun t ht => by
        rcases List.mem_cons.mp (hrest ▸ ht) with rfl | ht
        · intro h0; rw [h0] at hx; cases hx
        · exact hz t ht)
      simpa only [ssyms_push _ hpath.ne_nil, hrest, List.map_cons, List.append_assoc,
        List.singleton_append] using hd
    · show c.req + 1 + xs.length = w.length + 1
      rw [hrest, List.length_cons] at hcnt
      omega
  | @reduce r rl p hr0 hrl hnt hit hn hg =>
    obtain ⟨_, hsy, hpd, _⟩ := handle_rhs hA hpath hrl hit
    refine ⟨.push _ _ hpd hg, hterm, fun hz => ?_, hcnt⟩
    have hd := hder hz
    rw [hsy] at hd
    have hzT : ∀ t ∈ c.rest.map Prod.fst, G.isT t = true := by
      intro t ht
      obtain ⟨x, hx, rfl⟩ := List.mem_map.mp ht
      exact isT_of (hterm x hx).1 (hz x hx)
    simpa only [ssyms_push _ hpd.ne_nil] using
      RmDer.step (ssyms (c.stack.drop rl.rhs.length)) r rl _ c.reds w hrl hzT hd

theorem init_inv {G : Grammar} {A : Auto} (bv : V) (w : List (Sym × V))
    (hw : ∀ t ∈ w, t.1 ≤ G.nT ∧ t.1 ≠ 1) : Inv G A (w.map Prod.fst) (init bv w) :=
  ⟨PathOK.bottom bv, hw, fun _ => RmDer.nil _, by rw [List.length_map]; exact Nat.add_comm 1 _⟩

theorem reach_inv {G : Grammar} {nS : Nat} {A : Auto} {T : Dense} {w : List Sym}
    (sem : Nat → List V → V) (eofVal : V)
    (hG : GOK G nS) (hA : AOK G A) (hT : TOK G nS A T) {c c' : Cfg V} (h : Inv G A w c)
    (hr : Reach (dparams G T A.n sem eofVal) c c') : Inv G A w c' :=
  hr.inv (fun _ _ hi hs => hi.next hA (hs ▸ step_amove sem eofVal hG hA hT hi)) h

end Y.D
