import Yv.Proofs.GenTabFacts
/-! The list-based table generator `Y.GT.genRowL` and the array model `Core.genRow` compute the same
    rows (same candidates in the same order, same fold, same cell values), for all inputs. -/
namespace Y.GT
open Core (Action)

theorem getBang_eq {α : Type} [Inhabited α] (xs : Array α) (i : Nat) :
    xs[i]! = xs.toList.getD i default := by
  rw [getElem!_def]
  simp only [List.getD_eq_getElem?_getD, Array.getElem?_toList]
  cases xs[i]? <;> rfl

theorem resolveCell_eq (l : List Action) : Core.resolveCell l = foldCell Core.pairWinner l := by
  cases l <;> rfl

theorem genRow_unfold (g : Core.Gram) (a : Core.Auto) (t : Core.LATab) (q : Nat) :
    Core.genRow g a t q = (Array.range g.nSyms).map (fun s =>
      decode a.states.size (Core.resolveCell (((Core.cands g a t q).filter (·.1 == s)).map (·.2)))) := by
  rfl

theorem itemOfCore_beq (x y : Core.Item) : (itemOfCore x == itemOfCore y) = (x == y) := by
  rw [Bool.eq_iff_iff]
  simp [itemOfCore, Prod.ext_iff]

theorem laGet_eq (t : Core.LATab) (q : Nat) (it : Core.Item) :
    (laOfCore t).get q (itemOfCore it) = Core.laGet t q it := by
  unfold LATab.get Core.laGet laOfCore
  simp only
  rw [getD_map_map, List.find?_map, getBang_eq]
  have : ((fun p : Item × List Sym => p.1 == itemOfCore it) ∘ fun p : Core.Item × List Nat => (itemOfCore p.1, p.2)) =
      fun p : Core.Item × List Nat => p.1 == it := by
    funext p; exact itemOfCore_beq p.1 it
  rw [this]
  change _ = match List.find? (fun x => x.1 == it) (t.toList.getD q []) with | some (_, l) => l | none => []
  cases List.find? (fun x : Core.Item × List Nat => x.1 == it) (t.toList.getD q []) with
  | none => rfl
  | some p => rfl

/-- the reductions contributed by one item, in the array model's types -/
def redsC (g : Core.Gram) (t : Core.LATab) (q : Nat) (it : Core.Item) : List (Nat × Action) :=
  match g.rules[it.1]? with
  | some r =>
    if it.2 == r.rhs.size then (Core.laGet t q it).map fun s => (s, (precOfCore g).redAct it.1)
    else []
  | none => []

theorem redAct_core {g : Core.Gram} {i : Nat} {r : Core.Rule} (h : g.rules[i]? = some r) :
    (precOfCore g).redAct i =
      if r.precSym < 0 then ⟨1, -(i : Int), 2, -1⟩
      else ⟨1, -(i : Int), g.assoc[r.precSym.toNat]!, g.prec[r.precSym.toNat]!⟩ := by
  have e : (g.rules.toList.map (·.precSym)).getD i (-1) = r.precSym := by
    simp [List.getD_eq_getElem?_getD, h]
  unfold PrecData.redAct precOfCore
  simp only [e]
  rw [getBang_eq, getBang_eq]
  rfl

theorem cands_unfold (g : Core.Gram) (a : Core.Auto) (t : Core.LATab) (q : Nat) :
    Core.cands g a t q =
      ((a.gotos[q]!).map fun e => (e.1, (⟨0, (e.2 : Int), g.assoc[e.1]!, g.prec[e.1]!⟩ : Action))) ++
      (a.states[q]!).flatMap (redsC g t q) := by
  unfold Core.cands
  simp only []
  congr 1
  rw [List.flatMap_eq_foldl]
  congr 1
  funext l it
  unfold redsC
  cases h : g.rules[it.1]? with
  | none => simp
  | some r =>
    simp only []
    by_cases hd : (it.2 == r.rhs.size) = true
    · simp only [hd, if_true]
      rw [redAct_core h]
      by_cases hps : r.precSym < 0
      · simp only [hps, if_true]
      · simp only [hps, if_false]
    · simp [hd]

theorem redsOf_core (g : Core.Gram) (t : Core.LATab) (q : Nat) (it : Core.Item) :
    redsOf (gramOfCore g) (precOfCore g) (laOfCore t) q (itemOfCore it) = redsC g t q it := by
  unfold redsOf redsC
  rw [laGet_eq]
  have e : (gramOfCore g).rules[(itemOfCore it).r]? =
      (g.rules[it.1]?).map fun r => (⟨r.lhs, r.rhs.toList⟩ : Rule) := by
    simp [gramOfCore, itemOfCore]
  rw [e]
  cases g.rules[it.1]? with
  | none => rfl
  | some r => simp [itemOfCore]

theorem cands_eq_core (g : Core.Gram) (a : Core.Auto) (t : Core.LATab) (q : Nat) :
    candsL (gramOfCore g) (precOfCore g) (autoOfCore a) (laOfCore t) q = Core.cands g a t q := by
  rw [cands_unfold]
  unfold candsL shiftsL reducesL
  congr 1
  · have e : (autoOfCore a).gts q = a.gotos[q]! := by
      rw [getBang_eq]; rfl
    rw [e]
    apply List.map_congr_left
    intro e _
    simp only [PrecData.shiftAct, precOfCore, getBang_eq]
    rfl
  · have e : (autoOfCore a).its q = (a.states[q]!).map itemOfCore := by
      rw [getBang_eq]
      exact getD_map_map itemOfCore a.states.toList q
    rw [e, List.flatMap_map]
    congr 1
    funext it
    exact redsOf_core g t q it

theorem autoOfCore_n (a : Core.Auto) : (autoOfCore a).n = a.states.size := by
  simp [Auto.n, autoOfCore]

/-- the list-based generator returns the same row as the array model `Core.genRow`, for all inputs -/
theorem genRowL_eq_core (g : Core.Gram) (a : Core.Auto) (t : Core.LATab) (q : Nat) :
    genRowCore g a t q = (Core.genRow g a t q).toList := by
  rw [genRow_unfold]
  unfold genRowCore genRowL cellOf candsOn
  rw [cands_eq_core]
  simp only [Array.toList_map, Array.toList_range, resolveCell_eq, autoOfCore_n]

end Y.GT
