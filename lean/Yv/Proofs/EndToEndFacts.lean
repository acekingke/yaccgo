import Yv.Proofs.DSound
import Yv.Proofs.ArrRefine
import Yv.Props.C05b
import Yv.Props.C01gen
/-! Facts behind `Yv/Props/EndToEnd.lean` (no `Yv.Gen.*` import here).

The packed parser differs from the dense one in the table lookup only.  Every lookup of a run from
`init` on a certified table has `q < A.n` and `a < nS` (`Inv`, `step_amove`), so a lookup that agrees
with the table on these ranges gives the same run (`Move.agree`, `agree_run_inv`).  Two such lookups:
`packedL`, the generated lookup `SplitA.lookupA` on the arrays `PackA.packA (PackX.trySplit T nT).tab`,
total (`pparams`; C05 under `DenseWF`), and `lookupGo`, the same with every slice index checked as Go
checks it, `none` = index out of range (`pparamsP`).  `denseSimple_of_certT`: for a certified table
`DenseSimple`, hence `DenseWF`, reduces to `rowsLive`. -/
namespace Y.D
open Y

variable {V : Type}

/-- the lookup the generated parser performs on the packed arrays the model pipeline produces -/
def packedL (T : Dense) (nT : Nat) (err : Int) (q a : Nat) : Int :=
  SplitA.lookupA (PackA.packA (PackX.trySplit T nT).tab) (PackX.trySplit T nT) nT err q a

/-- the parameters of the packed parser: `dparams` with the lookup `packedL`, total (no index is checked) -/
def pparams (G : Grammar) (T : Dense) (n : Nat) (sem : Nat → List V → V) (eofVal : V) : Params V :=
  { L := fun q a => some (packedL T G.nT (errCode n) q a), errC := errCode n, accC := accCode n,
    rule := fun r => if r = 0 then none else (G.rules[r]?).map (fun rl => (rl.lhs, rl.rhs.length)),
    sem := sem, eofVal := eofVal }

theorem pparams_eq (G : Grammar) (T : Dense) (n : Nat) (sem : Nat → List V → V) (eofVal : V) :
    pparams G T n sem eofVal =
      { dparams G T n sem eofVal with L := fun q a => some (packedL T G.nT (errCode n) q a) } := rfl

/-- the certificates under which the theorems about the driver hold for a table `T`; everything
    after table generation depends on the table through these (and `DenseWF`) only -/
structure Certified (G : Grammar) (nS : Nat) (A : Auto) (T : Dense) : Prop where
  gram : gramWF G nS = true
  auto : certA G A = true
  table : certT G nS A T = true

theorem pipeline_certified {res : Core.Action → Core.Action → Core.Action} (hR : GT.ResSel res)
    {G : Grammar} {nS : Nat} {Pr : GT.PrecData} {A : Auto} {t : LATab}
    (hG : gramWF G nS = true) (hB : buildL G = some A) (hLa : laL G nS A = some t) :
    Certified G nS A (GT.genTableL res G nS Pr A t) :=
  have h := Y.Props.pipeline_certT res hR G nS Pr A t hG hB hLa
  ⟨hG, h.1, h.2⟩

theorem cell_getElem {T : Dense} {q a : Nat} (hq : q < T.length) (ha : a < T[q].length) :
    cell T q a = some T[q][a] := by
  simp only [cell, List.getElem?_eq_getElem hq, Option.bind_some, List.getElem?_eq_getElem ha]

theorem cell_eq_getD (T : Dense) (nS : Nat) (hrect : ∀ r ∈ T, r.length = nS) (q a : Nat)
    (hq : q < T.length) (ha : a < nS) : cell T q a = some ((T.getD q []).getD a 0) := by
  have ha' : a < T[q].length := by rw [hrect _ (List.getElem_mem hq)]; exact ha
  simp only [cell_getElem hq ha', List.getD_eq_getElem?_getD, List.getElem?_eq_getElem hq,
    List.getElem?_eq_getElem ha', Option.getD_some]

theorem packedL_eq_cell (T : Dense) (nT nS : Nat) (err : Int)
    (hrect : ∀ r ∈ T, r.length = nS) (hnT : nT < nS) (hwf : SplitA.DenseWF T nT nS err = true)
    (q a : Nat) (hq : q < T.length) (ha : a < nS) :
    some (packedL T nT err q a) = cell T q a := by
  rw [cell_eq_getD T nS hrect q a hq ha]
  unfold packedL
  rw [SplitA.C05_split_lookup T nT nS err hrect hnT hwf q a hq ha]

theorem stTop_lt {st : List (Entry V)} {n : Nat} (hne : st ≠ []) (h : ∀ e ∈ st, e.st < n) : stTop st < n := by
  cases st with
  | nil => exact absurd rfl hne
  | cons e _ => exact h e (List.mem_cons_self ..)

/-- a move reads the table at states of the stack, at the lookahead and at the left-hand side of
    the rule: it stays the move under a lookup `L'` that agrees there -/
theorem Move.agree {P : Params V} {L' : Nat → Nat → Option Int} {n nS : Nat} {c : Cfg V} {r : StepR V}
    (hL : ∀ q a, q < n → a < nS → L' q a = P.L q a)
    (hrule : ∀ r lhs k, P.rule r = some (lhs, k) → lhs < nS)
    (hst : ∀ e ∈ c.stack, e.st < n) (hla : (look P.eofVal c).1 < nS) (h : Move P c r) :
    Move { P with L := L' } c r := by
  cases h with
  | err hne h0 => exact .err hne ((hL _ _ (stTop_lt hne hst) hla).trans h0)
  | acc hs h0 hne => exact .acc hs ((hL _ _ (hst _ (hs ▸ List.mem_cons_self ..)) hla).trans h0) hne
  | shift hne h0 he hacc hpos => exact .shift hne ((hL _ _ (stTop_lt hne hst) hla).trans h0) he hacc hpos
  | @reduce a g lhs k h0 he hacc hpos hr hk hg hg0 =>
    have hne : c.stack ≠ [] := fun e => Nat.not_lt_zero _ (e ▸ hk)
    have hd : c.stack.drop k ≠ [] := fun e => Nat.not_le_of_lt hk (List.drop_eq_nil_iff.mp e)
    exact .reduce ((hL _ _ (stTop_lt hne hst) hla).trans h0) he hacc hpos hr hk
      ((hL _ _ (stTop_lt hd fun e he => hst e (List.mem_of_mem_drop he)) (hrule _ _ _ hr)).trans hg) hg0

theorem PathOK.all_lt {G : Grammar} {A : Auto} (hA : AOK G A) {st : List (Entry V)}
    (h : PathOK A st) : ∀ e ∈ st, e.st < A.n := by
  induction h with
  | bottom v =>
    intro e he
    rw [List.mem_singleton] at he
    subst he
    exact hA.npos
  | push e st hp hg ih =>
    intro e' he'
    rcases List.mem_cons.mp he' with rfl | h
    · exact (hA.edge _ (hp.top_lt hA) _ _ hg).1
    · exact ih e' h

theorem dparams_rule_lt {G : Grammar} {nS : Nat} (hG : GOK G nS) (T : Dense) (n : Nat)
    (sem : Nat → List V → V) (eofVal : V) (r : Nat) (lhs k : Nat)
    (h : (dparams G T n sem eofVal).rule r = some (lhs, k)) : lhs < nS := by
  simp only [dparams] at h
  split at h
  · cases h
  · obtain ⟨rl, hr, he⟩ := Option.map_eq_some_iff.mp h
    cases he
    exact hG.lhs_lt r rl hr

/-- one step from a configuration satisfying the run invariant is a move (`step_amove`), and every
    lookup of it has `q < A.n` and `a < nS`: a lookup `L'` that agrees with the table there gives the
    same step -/
theorem agree_step_eq {G : Grammar} {nS : Nat} {A : Auto} {T : Dense} {w : List Sym}
    (sem : Nat → List V → V) (eofVal : V)
    (hG : gramWF G nS = true) (hA : certA G A = true) (hT : certT G nS A T = true)
    (L' : Nat → Nat → Option Int) (hL : ∀ q a, q < A.n → a < nS → L' q a = cell T q a)
    {c : Cfg V} (h : Inv G A w c) :
    step { dparams G T A.n sem eofVal with L := L' } c = step (dparams G T A.n sem eofVal) c := by
  have hG' := gramWF_ok hG
  have hA' := certA_ok hA
  have hnc : step (dparams G T A.n sem eofVal) c ≠ .crash := fun e => by
    have := step_amove sem eofVal hG' hA' (certT_ok hT) h
    rw [e] at this
    cases this
  exact (Move.agree hL (dparams_rule_lt hG' T A.n sem eofVal) (PathOK.all_lt hA' h.path)
    (Nat.lt_of_le_of_lt (look_le hG'.nT1 h) hG'.nTS) (step_move rfl hnc)).step_eq

theorem agree_run_inv {G : Grammar} {nS : Nat} {A : Auto} {T : Dense} {w : List Sym}
    (sem : Nat → List V → V) (eofVal : V)
    (hG : gramWF G nS = true) (hA : certA G A = true) (hT : certT G nS A T = true)
    (L' : Nat → Nat → Option Int) (hL : ∀ q a, q < A.n → a < nS → L' q a = cell T q a) :
    ∀ (fuel : Nat) (c : Cfg V), Inv G A w c →
      run { dparams G T A.n sem eofVal with L := L' } fuel c =
        run (dparams G T A.n sem eofVal) fuel c := by
  intro fuel
  induction fuel with
  | zero => intro c _; rfl
  | succ k ih =>
    intro c h
    unfold run
    rw [agree_step_eq sem eofVal hG hA hT L' hL h]
    cases hs : step (dparams G T A.n sem eofVal) c with
    | next c' =>
      exact ih c' (h.next (certA_ok hA)
        (hs ▸ step_amove sem eofVal (gramWF_ok hG) (certA_ok hA) (certT_ok hT) h))
    | _ => rfl

theorem packedL_agree {G : Grammar} {nS : Nat} {A : Auto} {T : Dense}
    (hG : gramWF G nS = true) (hT : certT G nS A T = true)
    (hW : SplitA.DenseWF T G.nT nS (errCode A.n) = true) :
    ∀ q a, q < A.n → a < nS → some (packedL T G.nT (errCode A.n) q a) = cell T q a := by
  obtain ⟨hlen, hrect⟩ := certT_shape hT
  intro q a hq ha
  exact packedL_eq_cell T G.nT nS (errCode A.n) hrect (gramWF_ok hG).nTS hW q a (by omega) ha

theorem packed_step_eq {G : Grammar} {nS : Nat} {A : Auto} {T : Dense} {w : List Sym}
    (sem : Nat → List V → V) (eofVal : V)
    (hG : gramWF G nS = true) (hA : certA G A = true) (hT : certT G nS A T = true)
    (hW : SplitA.DenseWF T G.nT nS (errCode A.n) = true)
    {c : Cfg V} (h : Inv G A w c) :
    step (pparams G T A.n sem eofVal) c = step (dparams G T A.n sem eofVal) c :=
  agree_step_eq sem eofVal hG hA hT _ (packedL_agree hG hT hW) h

/-! ### the lookup with Go's index checks

`lookupGo` is the packed `Action` method with every slice index checked as Go checks it
(`none` = "index out of range" panic): `off[q]`, then — `chk[o]` being guarded by the tests
`o < 0` and `o >= len(chk)` — `gdef[a-nT-1]` / `adef[q]` on a miss and `act[o]` on a hit. -/

def lookupGo (p : PackA.Packed) (s : PackX.Split) (nT : Nat) (err : Int) (q a : Nat) : Option Int :=
  match p.off[q]? with
  | none => none
  | some oq =>
    if oq + (a : Int) < 0 then some err
    else if (oq + (a : Int)).toNat ≥ p.check.length || p.check.getD (oq + (a : Int)).toNat (-1) != q then
      if a > nT then s.gtdef[a - nT - 1]? else s.actdef[q]?
    else p.act[(oq + (a : Int)).toNat]?

theorem getElem?_some_getD (l : List Int) (i : Nat) (h : i < l.length) : l[i]? = some (l.getD i 0) := by
  rw [List.getD_eq_getElem?_getD, List.getElem?_eq_getElem h]; rfl

/-- wherever the checked lookup does not panic it returns what the unchecked `lookupA` (= the
    translated `Action` text, C05c) returns — for ALL arrays, states and symbols -/
theorem lookupGo_some (p : PackA.Packed) (s : PackX.Split) (nT : Nat) (err : Int) (q a : Nat) (v : Int)
    (h : lookupGo p s nT err q a = some v) : SplitA.lookupA p s nT err q a = v := by
  -- the two differ in `l[i]?` against `l.getD i 0` only, and `(l[i]?).getD 0 = l.getD i 0`
  unfold lookupGo at h
  cases ho : p.off[q]? with
  | none => rw [ho] at h; cases h
  | some oq =>
    rw [ho] at h
    have push : ∀ (c : Prop) [Decidable c] (x y : Option Int),
        (if c then x else y).getD 0 = if c then x.getD 0 else y.getD 0 := fun c _ x y =>
      apply_ite (fun o : Option Int => o.getD 0) c x y
    have hv := congrArg (Option.getD · 0) h
    simp only [push, Option.getD_some, ← List.getD_eq_getElem?_getD] at hv
    rw [SplitA.lookupA, List.getD_eq_getElem?_getD, ho]
    exact hv

theorem packA_off_length (tab : List (List Int)) : (PackA.packA tab).off.length = tab.length := by
  simp [PackA.packA, PackA.packOf]

theorem packA_act_length (tab : List (List Int)) :
    (PackA.packA tab).act.length = (PackA.packA tab).check.length := by
  simp [PackA.packA, PackA.packOf, PackA.retU, PackA.chkU]

theorem trySplit_actdef_length (T : Dense) (nT : Nat) : (PackX.trySplit T nT).actdef.length = T.length := by
  simp [PackX.trySplit]

theorem trySplit_gtdef_length (T : Dense) (nT : Nat) :
    (PackX.trySplit T nT).gtdef.length = (T.headD []).length - nT - 1 := by
  simp [PackX.trySplit, PackX.transpose]

/-- inside the index ranges of the table no index of the packed `Action` is out of range, and the
    value is `lookupA`'s -/
theorem lookupGo_eq (T : Dense) (nT nS : Nat) (err : Int) (hrect : ∀ r ∈ T, r.length = nS)
    (q a : Nat) (hq : q < T.length) (ha : a < nS) :
    lookupGo (PackA.packA (PackX.trySplit T nT).tab) (PackX.trySplit T nT) nT err q a =
      some (packedL T nT err q a) := by
  have hne : T ≠ [] := by intro h; rw [h] at hq; simp at hq
  have hh := SplitA.headD_length T nS hrect hne
  have hoff : q < (PackA.packA (PackX.trySplit T nT).tab).off.length := by
    rw [packA_off_length, SplitA.trySplit_eq, SplitA.length_tab]; exact hq
  have hact := packA_act_length (PackX.trySplit T nT).tab
  have hadef := trySplit_actdef_length T nT
  have hgdef := trySplit_gtdef_length T nT
  rw [hh] at hgdef
  unfold lookupGo packedL SplitA.lookupA
  rw [getElem?_some_getD _ q hoff]
  simp only []
  generalize (PackA.packA (PackX.trySplit T nT).tab).off.getD q 0 + (a : Int) = o at *
  by_cases h0 : o < 0
  · simp only [h0, ↓reduceIte]
  by_cases hm : (o.toNat ≥ (PackA.packA (PackX.trySplit T nT).tab).check.length ||
      (PackA.packA (PackX.trySplit T nT).tab).check.getD o.toNat (-1) != (q : Int)) = true
  · by_cases hc : a > nT
    · simp only [h0, hm, hc, ↓reduceIte]
      exact getElem?_some_getD _ _ (by omega)
    · simp only [h0, hm, hc, ↓reduceIte]
      exact getElem?_some_getD _ _ (by omega)
  · simp only [h0, hm, ↓reduceIte]
    refine getElem?_some_getD _ _ ?_
    rw [Bool.or_eq_true, decide_eq_true_eq] at hm
    omega

/-- the same with the lookup `lookupGo` (`P` for panic: `none` where a slice index of the packed
    `Action` would be out of range in Go, and the driver then crashes) -/
def pparamsP (G : Grammar) (T : Dense) (n : Nat) (sem : Nat → List V → V) (eofVal : V) : Params V :=
  { L := lookupGo (PackA.packA (PackX.trySplit T G.nT).tab) (PackX.trySplit T G.nT) G.nT (errCode n),
    errC := errCode n, accC := accCode n,
    rule := fun r => if r = 0 then none else (G.rules[r]?).map (fun rl => (rl.lhs, rl.rhs.length)),
    sem := sem, eofVal := eofVal }

theorem lookupGo_agree {G : Grammar} {nS : Nat} {A : Auto} {T : Dense}
    (hG : gramWF G nS = true) (hT : certT G nS A T = true)
    (hW : SplitA.DenseWF T G.nT nS (errCode A.n) = true) :
    ∀ q a, q < A.n → a < nS →
      lookupGo (PackA.packA (PackX.trySplit T G.nT).tab) (PackX.trySplit T G.nT) G.nT (errCode A.n) q a
        = cell T q a := by
  obtain ⟨hlen, hrect⟩ := certT_shape hT
  intro q a hq ha
  rw [lookupGo_eq T G.nT nS (errCode A.n) hrect q a (by omega) ha]
  exact packedL_agree hG hT hW q a hq ha

/-- every state has an action cell (columns `0 … nT`) that is not the error code -/
def rowsLive (T : Dense) (nT : Nat) (err : Int) : Bool :=
  T.all fun r => (r.take (nT + 1)).any (· != err)

theorem cell_of_mem {T : Dense} {r : List Int} {x : Int} (hr : r ∈ T) (hx : x ∈ r) :
    ∃ q a, cell T q a = some x := by
  obtain ⟨q, hq, rfl⟩ := List.getElem_of_mem hr
  obtain ⟨a, ha, rfl⟩ := List.getElem_of_mem hx
  exact ⟨q, a, cell_getElem hq ha⟩

/-- a certified table has no cell 0 and its column 0 is the error code; so the criterion
    `DenseSimple` on the dense table reduces to `rowsLive` -/
theorem denseSimple_of_certT {G : Grammar} {nS : Nat} {A : Auto} {T : Dense}
    (hG : gramWF G nS = true) (hT : certT G nS A T = true)
    (hlive : rowsLive T G.nT (errCode A.n) = true) :
    SplitA.DenseSimple T G.nT (errCode A.n) = true := by
  have hG' := gramWF_ok hG
  have hT' := certT_ok hT
  obtain ⟨hlen, hrect⟩ := certT_shape hT
  unfold rowsLive at hlive
  unfold SplitA.DenseSimple
  simp only [List.all_eq_true, Bool.and_eq_true, bne_iff_ne, ne_eq, beq_iff_eq] at hlive ⊢
  intro r hr
  refine ⟨⟨?_, ?_⟩, hlive r hr⟩
  · intro x hx h0
    obtain ⟨q, a, hc⟩ := cell_of_mem hr hx
    subst h0
    have he : (0 : Int) ≠ errCode A.n := by unfold errCode; omega
    have hac : (0 : Int) ≠ accCode A.n := by unfold accCode; omega
    have := (hT'.red q a 0 hc he hac (by omega)).1
    simp at this
  · obtain ⟨q, hq, rfl⟩ := List.getElem_of_mem hr
    have h0 : 0 < T[q].length := by rw [hrect _ hr]; have := hG'.nTS; omega
    rw [List.getD_eq_getElem?_getD, List.getElem?_eq_getElem h0]
    exact hT'.col0 q _ (cell_getElem hq h0)

theorem denseWF_of_certT {G : Grammar} {nS : Nat} {A : Auto} {T : Dense}
    (hG : gramWF G nS = true) (hT : certT G nS A T = true)
    (hlive : rowsLive T G.nT (errCode A.n) = true) :
    SplitA.DenseWF T G.nT nS (errCode A.n) = true :=
  SplitA.denseWF_of_simple PackX.findMax T G.nT nS (errCode A.n) (certT_shape hT).2
    (gramWF_ok hG).nTS (denseSimple_of_certT hG hT hlive)

end Y.D
