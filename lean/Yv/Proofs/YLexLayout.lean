import Yv.Proofs.YLexTotal
/-! C10 (lexer half): layout between tokens does not change the token kinds and values.
    `runRoot` iterates `rootStep` (`lexRoot` with a list in place of the array); a `Gap` is consumed from a token
    boundary without a token (`skip_gap`); the state functions do not look at offsets (`StEq`, `stEq_rel`); hence
    lexing splits at a `BoundaryAt` (`lexKV_split`), which gives the layout theorems of `Props/C10`. -/
namespace YLex

theorem isBlank3_iff {c : Char} : isBlank3 c = true ↔ c = ' ' ∨ c = '\t' ∨ c = '\n' := by
  simp [isBlank3, or_assoc]

theorem skipWhile_eq (q : Char → Bool) (st : St) :
    st.skipWhile q = ⟨st.rest.dropWhile q, (st.rest.takeWhile q).reverse ++ st.pend,
      st.pos + (st.rest.takeWhile q).length⟩ := by
  obtain ⟨t, d, ht, hd, e⟩ : ∃ t d, st.rest.takeWhile q = t ∧ st.rest.dropWhile q = d ∧ st.rest = t ++ d :=
    ⟨_, _, rfl, rfl, List.takeWhile_append_dropWhile.symm⟩
  rw [St.skipWhile, adv_eq, ht, hd, e]
  simp

theorem skipWhile_append (q : Char → Bool) (a : List Char) (c : Char) (r pd : List Char) (p : Nat)
    (ha : ∀ x ∈ a, q x = true) (hc : q c = false) :
    St.skipWhile q ⟨a ++ c :: r, pd, p⟩ = ⟨c :: r, a.reverse ++ pd, p + a.length⟩ := by
  simp [skipWhile_eq, List.takeWhile_append_of_pos ha, List.dropWhile_append_of_pos ha, hc]

theorem skip_rest (q : Char → Bool) (st : St) :
    (st.skipWhile q).rest = st.rest.drop (st.rest.takeWhile q).length := adv_rest _ _

/-- A string literal is `String.ofList` of its characters, so this applies to `hasPrefix "//" l` by
    unification, and costs nothing; evaluating `"//".toList` is dear. -/
theorem hasPrefix_ofList (w l : List Char) : hasPrefix (String.ofList w) l = w.isPrefixOf l := by
  rw [hasPrefix, String.toList_ofList]

theorem rootStep_cons (c : Char) (r pd : List Char) (p : Nat) (hc : c ≠ '/') :
    rootStep ⟨c :: r, pd, p⟩ = dispatch c ⟨r, c :: pd, p + 1⟩ := by
  have h (d : Char) : hasPrefix (String.ofList ['/', d]) (c :: r) = false := by
    rw [hasPrefix_ofList]; simp [List.isPrefixOf, Ne.symm hc]
  simp only [rootStep, h '/', h '*']
  rfl

theorem acceptAlpha_miss (w : List Char) (st : St) (h : w.isPrefixOf (st.rest.dropWhile (· == ' ')) = false) :
    acceptAlpha (String.ofList w) st = none := by
  simp only [acceptAlpha, skipWhile_eq, hasPrefix_ofList, h]
  rfl

theorem acceptAlpha_hit (c : Char) (u X pd : List Char) (p : Nat) (hc : (c == ' ') = false)
    (hX : ∀ x t, X = x :: t → isLetter x = false) :
    acceptAlpha (String.ofList (c :: u)) ⟨c :: (u ++ X), pd, p⟩ =
      some ⟨X, (c :: u).reverse ++ pd, p + (c :: u).length⟩ := by
  have h1 : (String.ofList (c :: u)).length = (c :: u).length := by
    rw [← String.length_toList, String.toList_ofList]
  have h2 : St.skipWhile (· == ' ') ⟨c :: (u ++ X), pd, p⟩ = ⟨c :: (u ++ X), pd, p⟩ := by
    simp [skipWhile_eq, hc]
  have h3 : St.adv ⟨c :: (u ++ X), pd, p⟩ (c :: u).length = ⟨X, (c :: u).reverse ++ pd, p + (c :: u).length⟩ := by
    simp [adv_eq]
  simp only [acceptAlpha, h2, hasPrefix_ofList, h1, h3]
  cases X with
  | nil => simp
  | cons x t => simp [hX x t rfl]

theorem directiveChain_none (ws : List (String × Kind)) (st : St) (acc : List Tok)
    (h : ∀ x ∈ ws, acceptAlpha x.1 st = none) : directiveChain ws st acc = (acc.reverse, st) := by
  induction ws with
  | nil => rfl
  | cons x xs ih =>
    rw [directiveChain, h x (by simp)]
    exact ih fun y hy => h y (by simp [hy])

/-- run at most `n` root steps, concatenating the emitted tokens; stops when a step stops -/
def runRoot : Nat → St → Res
  | 0, st => cont [] st
  | n+1, st =>
    if (rootStep st).go then
      ⟨(rootStep st).toks ++ (runRoot n (rootStep st).st).toks, (runRoot n (rootStep st).st).st,
        (runRoot n (rootStep st).st).go⟩
    else rootStep st

/-- `lexRoot` is `runRoot` with an array accumulator; the flag is "stopped by itself" -/
theorem lexRoot_eq_run (n : Nat) (st : St) (acc : Array Tok) :
    lexRoot n st acc = (acc ++ (runRoot n st).toks.toArray, !(runRoot n st).go) := by
  induction n generalizing st acc with
  | zero => simp [lexRoot, runRoot, cont]
  | succ n ih =>
    unfold lexRoot runRoot
    split <;> simp [*]

theorem runRoot_step {st st' : St} {toks : List Tok} (h : rootStep st = cont toks st') (n : Nat) :
    runRoot (n + 1) st = ⟨toks ++ (runRoot n st').toks, (runRoot n st').st, (runRoot n st').go⟩ := by
  rw [runRoot, h]; rfl

theorem runRoot_add (n m : Nat) (st : St) :
    runRoot (n + m) st =
      if (runRoot n st).go then
        ⟨(runRoot n st).toks ++ (runRoot m (runRoot n st).st).toks, (runRoot m (runRoot n st).st).st,
          (runRoot m (runRoot n st).st).go⟩
      else runRoot n st := by
  induction n generalizing st with
  | zero => simp [runRoot, cont]
  | succ n ih =>
    rw [Nat.add_right_comm, runRoot, runRoot, ih]
    split
    · split <;> simp
    · simp [*]

theorem runRoot_stops (n : Nat) (st : St) (h : st.rest.length < n) : (runRoot n st).go = false := by
  have := lexRoot_fuel n st #[] h
  rw [lexRoot_eq_run] at this
  simpa using this

theorem runRoot_fuel (n m : Nat) (st : St) (hn : st.rest.length < n) (hm : st.rest.length < m) :
    runRoot n st = runRoot m st := by
  have h1 := runRoot_add n m st
  have h2 := runRoot_add m n st
  rw [runRoot_stops n st hn] at h1
  rw [runRoot_stops m st hm, Nat.add_comm] at h2
  exact h1.symm.trans h2

/-- no adjacent pair `x y` in the list -/
def NoPair (x y : Char) : List Char → Prop
  | a :: b :: t => ¬ (a = x ∧ b = y) ∧ NoPair x y (b :: t)
  | _ => True

/-- layout: blanks, tabs, newlines, `//…\n` comments and `/*…*/` comments -/
inductive Gap : List Char → Prop
  | nil : Gap []
  | blank (c : Char) (g : List Char) : isBlank3 c = true → Gap g → Gap (c :: g)
  | line (body g : List Char) : (∀ x ∈ body, x ≠ '\n') → Gap g → Gap ('/' :: '/' :: body ++ '\n' :: g)
  | block (body g : List Char) : NoPair '*' '/' body → Gap g → Gap ('/' :: '*' :: body ++ '*' :: '/' :: g)

theorem Gap.append {g h : List Char} (hg : Gap g) (hh : Gap h) : Gap (g ++ h) := by
  induction hg with
  | nil => exact hh
  | blank c g hc _ ih => exact Gap.blank c _ hc ih
  | line body g hb _ ih => simpa using Gap.line body _ hb ih
  | block body g hb _ ih => simpa using Gap.block body _ hb ih

theorem blockCommentLen_body : ∀ (body t : List Char) (n : Nat), NoPair '*' '/' body →
    blockCommentLen (body ++ '*' :: '/' :: t) n = some (n + body.length + 2)
  | [], t, n, _ => by simp [blockCommentLen]
  | [a], t, n, _ => by simp [blockCommentLen]
  | a :: b :: l, t, n, h => by
    rw [List.cons_append, blockCommentLen.eq_2 _ _ _ (by simpa using h.1), blockCommentLen_body (b :: l) t _ h.2]
    simp; omega

theorem rootStep_blank (c : Char) (r : List Char) (p : Nat) (hc : isBlank3 c = true) :
    rootStep ⟨c :: r, [], p⟩ = cont [] ⟨r, [], p + 1⟩ := by
  obtain rfl | rfl | rfl := isBlank3_iff.mp hc <;> rfl

theorem rootStep_line (body r : List Char) (p : Nat) (hb : ∀ x ∈ body, x ≠ '\n') :
    rootStep ⟨'/' :: '/' :: body ++ '\n' :: r, [], p⟩ = cont [] ⟨r, [], p + (body.length + 3)⟩ := by
  have hp : hasPrefix "//" ('/' :: '/' :: body ++ '\n' :: r) = true := hasPrefix_ofList ..
  have hs := skipWhile_append (· != '\n') ('/' :: '/' :: body) '\n' r [] p
    (by simpa using hb) (by decide)
  simp only [rootStep, commentState, hp, Bool.true_or, if_true, hs]
  simp [St.adv, St.ignore, cont]; omega

theorem rootStep_block (body r : List Char) (p : Nat) (hb : NoPair '*' '/' body) :
    rootStep ⟨'/' :: '*' :: body ++ '*' :: '/' :: r, [], p⟩ = cont [] ⟨r, [], p + (body.length + 4)⟩ := by
  have hp : hasPrefix "//" ('/' :: '*' :: body ++ '*' :: '/' :: r) = false := hasPrefix_ofList ..
  have hq : hasPrefix "/*" ('/' :: '*' :: body ++ '*' :: '/' :: r) = true := hasPrefix_ofList ..
  have h2 : St.adv ⟨'/' :: '*' :: body ++ '*' :: '/' :: r, [], p⟩ 2 = ⟨body ++ '*' :: '/' :: r, ['*', '/'], p + 2⟩ :=
    rfl
  simp only [rootStep, commentState, hp, hq, Bool.or_true, if_true, h2, blockCommentLen_body body r 0 hb,
    Nat.zero_add]
  simp [adv_eq, St.ignore, cont]; omega

theorem skip_gap {g : List Char} (hg : Gap g) (rest : List Char) (p : Nat) :
    ∃ n, n ≤ g.length ∧ runRoot n ⟨g ++ rest, [], p⟩ = cont [] ⟨rest, [], p + g.length⟩ := by
  -- each piece is one step `h`; the rest of the gap is `ih`
  have step {x r : List Char} {p d m L q : Nat} (h : rootStep ⟨x, [], p⟩ = cont [] ⟨r, [], p + d⟩)
      (ih : ∃ n, n ≤ m ∧ runRoot n ⟨r, [], p + d⟩ = cont [] ⟨rest, [], p + d + m⟩) (hL : m < L)
      (hq : p + d + m = q) : ∃ n, n ≤ L ∧ runRoot n ⟨x, [], p⟩ = cont [] ⟨rest, [], q⟩ := by
    obtain ⟨n, hn, e⟩ := ih
    exact ⟨n + 1, by omega, by rw [runRoot_step h, e, ← hq]; rfl⟩
  induction hg generalizing p with
  | nil => exact ⟨0, Nat.le_refl _, rfl⟩
  | blank c g hc _ ih => exact step (rootStep_blank c _ p hc) (ih _) (by simp) (by simp; omega)
  | line body g hb _ ih =>
    rw [List.append_assoc]
    exact step (rootStep_line body _ p hb) (ih _) (by simp; omega) (by simp; omega)
  | block body g hb _ ih =>
    rw [List.append_assoc]
    exact step (rootStep_block body _ p hb) (ih _) (by simp; omega) (by simp; omega)

/-- same unread input and same pending characters (offsets may differ) -/
def StEq (a b : St) : Prop := a.rest = b.rest ∧ a.pend = b.pend

theorem StEq.refl (a : St) : StEq a a := ⟨rfl, rfl⟩
theorem StEq.mk' (r pd : List Char) (p p' : Nat) : StEq ⟨r, pd, p⟩ ⟨r, pd, p'⟩ := ⟨rfl, rfl⟩

theorem StEq.adv_both {a b : St} (n : Nat) (h : StEq a b) : StEq (a.adv n) (b.adv n) := by
  rw [adv_eq, adv_eq, h.1, h.2]; exact ⟨rfl, rfl⟩

/-- the state functions do not look at offsets -/
theorem stEq_rel : StRel StEq := ⟨And.left, And.right, StEq.adv_both, fun h => ⟨h.1, rfl⟩⟩

theorem resEq_runRoot (n : Nat) {a b : St} (h : StEq a b) : ResRel StEq (runRoot n a) (runRoot n b) := by
  induction n generalizing a b with
  | zero => exact ⟨rfl, h, rfl⟩
  | succ n ih =>
    have hs := rel_rootStep stEq_rel h
    rw [runRoot, runRoot, hs.go]
    split
    · exact .pre hs.toks (ih hs.st)
    · exact hs

/-- kinds and values produced by lexing `cs` from the root with the fuel used by `lexAll` -/
def lexKV (cs : List Char) : List (Kind × String) :=
  (runRoot (cs.length + 2) ⟨cs, [], 0⟩).toks.map eraseEnd

/-- `pre` ends at a token boundary when followed by `s`: lexing `pre ++ s` from the root emits tokens with
    kinds/values `ks` and is then back in the root state on `s` with nothing pending -/
def BoundaryAt (pre : List Char) (ks : List (Kind × String)) (s : List Char) : Prop :=
  ∃ n toks q, runRoot n ⟨pre ++ s, [], 0⟩ = cont toks ⟨s, [], q⟩ ∧ toks.map eraseEnd = ks

/-- `pre` ends at a token boundary whatever follows -/
def Boundary (pre : List Char) (ks : List (Kind × String)) : Prop := ∀ s, BoundaryAt pre ks s

/-- the starting offset is irrelevant -/
theorem BoundaryAt.from {pre : List Char} {ks : List (Kind × String)} {s : List Char}
    (h : BoundaryAt pre ks s) (p : Nat) :
    ∃ n toks q, runRoot n ⟨pre ++ s, [], p⟩ = cont toks ⟨s, [], q⟩ ∧ toks.map eraseEnd = ks := by
  obtain ⟨n, toks, q, e, hk⟩ := h
  obtain ⟨h1, ⟨h2, h3⟩, h4⟩ := e ▸ resEq_runRoot n (StEq.mk' (pre ++ s) [] p 0)
  refine ⟨n, _, (runRoot n ⟨pre ++ s, [], p⟩).st.pos, ?_, h1.trans hk⟩
  generalize runRoot n ⟨pre ++ s, [], p⟩ = r at h2 h3 h4
  obtain ⟨_, ⟨_, _, _⟩, _⟩ := r
  cases h2; cases h3; cases h4; rfl

theorem BoundaryAt.nil (s : List Char) : BoundaryAt [] [] s := ⟨0, [], 0, rfl, rfl⟩

theorem BoundaryAt.append {a b s : List Char} {ks ks' : List (Kind × String)}
    (ha : BoundaryAt a ks (b ++ s)) (hb : BoundaryAt b ks' s) : BoundaryAt (a ++ b) (ks ++ ks') s := by
  obtain ⟨n1, t1, q1, e1, k1⟩ := ha
  obtain ⟨n2, t2, q2, e2, k2⟩ := hb.from q1
  refine ⟨n1 + n2, t1 ++ t2, q2, ?_, by simp [k1, k2]⟩
  rw [List.append_assoc, runRoot_add, e1]
  simp only [cont, if_true]
  rw [e2]; rfl

theorem Boundary.append {a b : List Char} {ks ks' : List (Kind × String)}
    (ha : Boundary a ks) (hb : Boundary b ks') : Boundary (a ++ b) (ks ++ ks') :=
  fun s => (ha (b ++ s)).append (hb s)

theorem Gap.boundary {g : List Char} (hg : Gap g) : Boundary g [] := by
  intro s
  obtain ⟨n, _, e⟩ := skip_gap hg s 0
  exact ⟨n, [], _, e, rfl⟩

theorem BoundaryAt.gap {pre g s : List Char} {ks : List (Kind × String)} (hb : BoundaryAt pre ks (g ++ s))
    (hg : Gap g) : BoundaryAt (pre ++ g) ks s := by
  have := hb.append (hg.boundary s)
  simpa using this

theorem lexKV_eq {cs : List Char} {n : Nat} (q : Nat) (h : cs.length < n) :
    (runRoot n ⟨cs, [], q⟩).toks.map eraseEnd = lexKV cs := by
  rw [lexKV, runRoot_fuel n (cs.length + 2) _ h (by simp)]
  exact (resEq_runRoot _ (StEq.mk' cs [] q 0)).toks

theorem lexKV_split {pre s : List Char} {ks : List (Kind × String)} (h : BoundaryAt pre ks s) :
    lexKV (pre ++ s) = ks ++ lexKV s := by
  obtain ⟨n, toks, q, e, hk⟩ := h
  rw [← lexKV_eq (n := n + ((pre ++ s).length + 1)) 0 (by omega), runRoot_add, e]
  simp only [cont, if_true, List.map_append, hk, lexKV_eq q (show s.length < (pre ++ s).length + 1 by simp; omega)]

theorem layout_at {pre g rest : List Char} {ks : List (Kind × String)}
    (h1 : BoundaryAt pre ks (g ++ rest)) (h2 : BoundaryAt pre ks rest) (hg : Gap g) :
    lexKV (pre ++ g ++ rest) = lexKV (pre ++ rest) := by
  rw [lexKV_split (h1.gap hg), lexKV_split h2]

theorem layout_boundary {pre g rest : List Char} {ks : List (Kind × String)}
    (hb : Boundary pre ks) (hg : Gap g) : lexKV (pre ++ g ++ rest) = lexKV (pre ++ rest) :=
  layout_at (hb _) (hb _) hg

theorem lexKV_nil : lexKV [] = [(.eof, "")] := by decide

/-- brace-balanced text -/
inductive Balanced : List Char → Prop
  | nil : Balanced []
  | char (c : Char) (b : List Char) : c ≠ '{' → c ≠ '}' → Balanced b → Balanced (c :: b)
  | nest (a b : List Char) : Balanced a → Balanced b → Balanced ('{' :: a ++ '}' :: b)

theorem unionBody_open (cs acc : List Char) (d n : Nat) :
    unionBody ('{' :: cs) d acc n = unionBody cs (d + 1) ('{' :: acc) (n + 1) := by
  rw [unionBody]; simp

theorem unionBody_close (cs acc : List Char) (d n : Nat) :
    unionBody ('}' :: cs) (d + 2) acc n = unionBody cs (d + 1) ('}' :: acc) (n + 1) := by
  rw [unionBody]; simp

theorem unionBody_last (cs acc : List Char) (n : Nat) :
    unionBody ('}' :: cs) 1 acc n = some (acc.reverse, n + 1) := by
  rw [unionBody]; simp

theorem unionBody_other (c : Char) (cs acc : List Char) (d n : Nat) (h1 : c ≠ '{') (h2 : c ≠ '}') :
    unionBody (c :: cs) d acc n = unionBody cs d (c :: acc) (n + 1) := by
  rw [unionBody]; simp [h1, h2]

theorem unionBody_balanced {b : List Char} (hb : Balanced b) (t acc : List Char) (d n : Nat) :
    unionBody (b ++ t) (d + 1) acc n = unionBody t (d + 1) (b.reverse ++ acc) (n + b.length) := by
  induction hb generalizing t acc d n with
  | nil => rfl
  | char c b h1 h2 _ ih =>
    rw [List.cons_append, unionBody_other c _ _ _ n h1 h2, ih]
    congr 1
    · simp
    · simp only [List.length_cons]; omega
  | nest a b _ _ iha ihb =>
    simp only [List.cons_append, List.append_assoc]
    rw [unionBody_open, iha, unionBody_close, ihb]
    congr 1
    · simp
    · simp only [List.length_cons, List.length_append]; omega

theorem unionBody_body {b : List Char} (hb : Balanced b) (t : List Char) :
    unionBody (b ++ '}' :: t) 1 [] 0 = some (b, b.length + 1) := by
  rw [unionBody_balanced hb _ [] 0 0, unionBody_last]
  simp

/-- the brace scanner of `{action}` is that of `%union{…}` without the text (from depth ≥ 1) -/
theorem braceLen_eq (cs : List Char) (d n : Nat) (acc : List Char) :
    braceLen cs (d + 1) n = (unionBody cs (d + 1) acc n).map (·.2) := by
  induction cs generalizing d n acc with
  | nil => rfl
  | cons c cs ih =>
    rw [braceLen, unionBody]
    by_cases h1 : c = '{'
    · simp [h1]; exact ih ..
    · by_cases h2 : c = '}'
      · cases d <;> simp [h2]; exact ih ..
      · simp [h1, h2]; exact ih ..

theorem codeQuoteBody_body : ∀ (body t acc : List Char) (n : Nat), NoPair '%' '}' body →
    codeQuoteBody (body ++ '%' :: '}' :: t) acc n = some (acc.reverse ++ body, n + body.length + 2)
  | [], t, acc, n, _ => by simp [codeQuoteBody]
  | [a], t, acc, n, _ => by simp [codeQuoteBody]
  | a :: b :: l, t, acc, n, h => by
    rw [List.cons_append, codeQuoteBody.eq_2 _ _ _ _ (by simpa using h.1), codeQuoteBody_body (b :: l) t _ _ h.2]
    simp; omega

theorem dispatch_percent (st : St) : dispatch '%' st = directiveState st := rfl

theorem directiveUnion_body (ws body rest pd : List Char) (q : Nat) (hws : ∀ x ∈ ws, isBlank3 x = true)
    (hb : Balanced body) :
    directiveUnionState ⟨ws ++ '{' :: body ++ '}' :: rest, pd, q⟩ =
      cont [⟨.unionDir, String.ofList body, q + (ws.length + body.length + 2)⟩]
        ⟨rest, [], q + (ws.length + body.length + 2)⟩ := by
  have h1 := skipWhile_append isBlank3 ws '{' (body ++ '}' :: rest) pd q hws (by decide)
  have h1' : St.adv ⟨'{' :: (body ++ '}' :: rest), ws.reverse ++ pd, q + ws.length⟩ 1 =
      ⟨body ++ '}' :: rest, '{' :: (ws.reverse ++ pd), q + ws.length + 1⟩ := rfl
  unfold directiveUnionState
  simp only [List.append_assoc, List.cons_append, h1, h1', unionBody_body hb]
  simp [adv_eq, cont, St.tokV, St.ignore]; omega

theorem directiveState_other (c : Char) (r pd : List Char) (p : Nat) (h1 : c ≠ '%') (h2 : c ≠ '{') :
    directiveState ⟨c :: r, pd, p⟩ = directiveOtherState ⟨c :: r, pd, p⟩ := by
  unfold directiveState
  split <;> simp_all

theorem directiveOther_union {st s : St} (h1 : acceptAlpha "type" st = none) (h2 : acceptAlpha "token" st = none)
    (h3 : acceptAlpha "union" st = some s) : directiveOtherState st = directiveUnionState s := by
  simp only [directiveOtherState, optWord, h1, h2, h3, List.nil_append]

theorem BoundaryAt.step {pre s : List Char} {toks : List Tok} {q : Nat} {ks : List (Kind × String)}
    (h : rootStep ⟨pre ++ s, [], 0⟩ = cont toks ⟨s, [], q⟩) (hk : toks.map eraseEnd = ks := by rfl) :
    BoundaryAt pre ks s :=
  ⟨1, toks, q, by rw [runRoot_step h 0]; simp [runRoot, cont], hk⟩

theorem boundary_punct (c : Char) (k : Kind) (hc : c ≠ '/') (hd : ∀ st, dispatch c st = cont [st.tok k] st.ignore) :
    Boundary [c] [(k, String.ofList [c])] :=
  fun _ => .step (by rw [List.cons_append, rootStep_cons _ _ _ _ hc, hd]; rfl)

theorem boundary_ruleEnd : Boundary [';'] [(.ruleEnd, ";")] := boundary_punct _ _ (by decide) fun _ => rfl
theorem boundary_ruleOr : Boundary ['|'] [(.ruleOr, "|")] := boundary_punct _ _ (by decide) fun _ => rfl
theorem boundary_ruleDefine : Boundary [':'] [(.ruleDefine, ":")] := boundary_punct _ _ (by decide) fun _ => rfl
theorem boundary_langle : Boundary ['<'] [(.langle, "<")] := boundary_punct _ _ (by decide) fun _ => rfl
theorem boundary_rangle : Boundary ['>'] [(.rangle, ">")] := boundary_punct _ _ (by decide) fun _ => rfl
theorem boundary_section : Boundary ['%', '%'] [(.section, "%%")] :=
  fun _ => .step (by rw [List.cons_append, rootStep_cons _ _ _ _ (by decide)]; rfl)

def isIdStart (c : Char) : Bool := isLetter c || c == '_'
def isIdChar (c : Char) : Bool := isLetter c || isDigit c || c == '_'

theorem dispatch_ident (c : Char) (st : St) (hc : isIdStart c = true) : dispatch c st = identifyState st := by
  have hne : ∀ d, isIdStart d = false → (c == d) = false := by
    intro d hd
    cases h : c == d with
    | false => rfl
    | true => rw [eq_of_beq h] at hc; rw [hc] at hd; cases hd
  have hb : isBlank3 c = false := by
    simp only [isBlank3, hne ' ' (by decide), hne '\t' (by decide), hne '\n' (by decide), Bool.or_self]
  unfold dispatch
  unfold isIdStart at hc
  simp only [hne '%' (by decide), hne '$' (by decide), hne '|' (by decide), hne ':' (by decide),
    hne ';' (by decide), hne '\'' (by decide), hne '"' (by decide), hb, hc, if_true, Bool.false_eq_true, if_false]

theorem ident_step (c : Char) (cs : List Char) (b : Char) (s : List Char) (p : Nat)
    (hc : isIdStart c = true) (hcs : ∀ x ∈ cs, isIdChar x = true) (hb : isIdChar b = false) :
    rootStep ⟨c :: cs ++ b :: s, [], p⟩ =
      cont [⟨.identifier, String.ofList (c :: cs), p + (cs.length + 1)⟩] ⟨b :: s, [], p + (cs.length + 1)⟩ := by
  have h2 := skipWhile_append (fun c => isLetter c || isDigit c || c == '_') cs b s [c] (p + 1) hcs hb
  rw [List.cons_append, rootStep_cons _ _ _ _ (fun h => by rw [h] at hc; cases hc), dispatch_ident c _ hc]
  unfold identifyState
  simp only [h2]
  simp [cont, St.tok, St.word, St.ignore]; omega

theorem boundary_ident (c : Char) (cs : List Char) (b : Char)
    (hc : isIdStart c = true) (hcs : ∀ x ∈ cs, isIdChar x = true) (hb : isBlank3 b = true) :
    Boundary (c :: cs ++ [b]) [(.identifier, String.ofList (c :: cs))] := by
  have hb' : isIdChar b = false := by
    obtain rfl | rfl | rfl := isBlank3_iff.mp hb <;> rfl
  exact fun s => (BoundaryAt.step (ident_step c cs b s 0 hc hcs hb')).gap (.blank b [] hb .nil)

theorem directiveOther_token {st s : St} (h1 : acceptAlpha "type" st = none) (h2 : acceptAlpha "token" st = some s)
    (h3 : acceptAlpha "union" s.ignore = none) (h4 : ∀ x ∈ directiveWords, acceptAlpha x.1 s.ignore = none) :
    directiveOtherState st = cont [s.tok .tokenDir] s.ignore := by
  simp only [directiveOtherState, optWord, h1, h2, h3, directiveChain_none _ _ _ h4, List.nil_append,
    List.reverse_nil, List.append_nil]

/-- `%token` before a continuation on which no further directive word matches (see `C10_directive_chain_caveat`
    for one on which a word does) -/
theorem token_step (X : List Char) (p : Nat) (hX : ∀ x t, X = x :: t → isLetter x = false)
    (h3 : acceptAlpha "union" ⟨X, [], p + 6⟩ = none)
    (h4 : ∀ x ∈ directiveWords, acceptAlpha x.1 ⟨X, [], p + 6⟩ = none) :
    rootStep ⟨'%' :: 't' :: 'o' :: 'k' :: 'e' :: 'n' :: X, [], p⟩ =
      cont [⟨.tokenDir, "%token", p + 6⟩] ⟨X, [], p + 6⟩ := by
  have hit := acceptAlpha_hit 't' ['o', 'k', 'e', 'n'] X ['%'] (p + 1) rfl hX
  rw [rootStep_cons _ _ _ _ (by decide), dispatch_percent, directiveState_other _ _ _ _ (by decide) (by decide)]
  exact (directiveOther_token (acceptAlpha_miss ['t', 'y', 'p', 'e'] _ rfl) hit h3 h4).trans rfl

theorem boundary_token_A :
    Boundary "%token A ".toList [(.tokenDir, "%token"), (.identifier, "A")] := by
  intro s
  have h1 := token_step (' ' :: 'A' :: ' ' :: s) 0 (fun x t e => by cases e; rfl) (acceptAlpha_miss _ _ rfl) (by
    intro x hx
    simp only [directiveWords, List.mem_cons, List.not_mem_nil, or_false] at hx
    rcases hx with rfl | rfl | rfl | rfl | rfl | rfl <;> exact acceptAlpha_miss _ _ rfl)
  rw [show "%token A ".toList = _ from String.toList_ofList]
  exact ((BoundaryAt.step (pre := ['%', 't', 'o', 'k', 'e', 'n']) h1).gap (.blank ' ' [] rfl .nil)).append
    (boundary_ident 'A' [] ' ' rfl (by simp) rfl s)

theorem lexRoot_kv (n : Nat) (cs : List Char) (h : cs.length < n) :
    (lexRoot n ⟨cs, [], 0⟩ #[]).1.toList.map eraseEnd = lexKV cs := by
  rw [lexRoot_eq_run, ← lexKV_eq 0 h]
  simp

theorem lexAll_kv (s : String) : (lexAll s).1.toList.map eraseEnd = lexKV s.toList :=
  lexRoot_kv _ _ (by simp)

theorem lexAll_kv_array (s : String) : (lexAll s).1.map eraseEnd = (lexKV s.toList).toArray := by
  apply Array.ext'
  rw [Array.toList_map, lexAll_kv]

end YLex
