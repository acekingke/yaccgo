import Yv.Model.Term
import Yv.Proofs.DStep
import Yv.Proofs.CertFacts
import Yv.Proofs.ListFacts
/-! Facts about the termination certificate `Y.Term.certTerm`: the driver halts on every table that
    passes it (`halts_of_ok`, with an explicit fuel bound), `run` is stable once it has halted
    (`run_mono`), and the array-backed evaluator equals the list one (`certTermFast_eq`). -/
namespace Y.Term
open Y Y.D

/-! ## `run` is stable once it halts -/

theorem run_mono {V : Type} (P : Params V) : ∀ (k : Nat) (c : D.Cfg V), run P k c ≠ .outOfFuel →
    ∀ k', k ≤ k' → run P k' c = run P k c
  | 0, c, h, _, _ => absurd rfl h
  | k + 1, c, h, k', hk => by
    obtain ⟨j, rfl⟩ : ∃ j, k' = j + 1 := ⟨k' - 1, by omega⟩
    unfold run at h ⊢
    cases hs : D.step P c with
    | next c' => exact run_mono P k c' (by rwa [hs] at h) j (by omega)
    | _ => rfl

def HaltsIn {V : Type} (P : Params V) (k : Nat) (c : D.Cfg V) : Prop := run P k c ≠ .outOfFuel

theorem HaltsIn.mono {V : Type} {P : Params V} {k k' : Nat} {c : D.Cfg V}
    (h : HaltsIn P k c) (hk : k ≤ k') : HaltsIn P k' c := by
  unfold HaltsIn; rw [run_mono P k c h k' hk]; exact h

theorem HaltsIn.of_next {V : Type} {P : Params V} {k : Nat} {c c' : D.Cfg V}
    (hs : D.step P c = .next c') (h : HaltsIn P k c') : HaltsIn P (k + 1) c := by
  unfold HaltsIn run; rw [hs]; exact h

theorem HaltsIn.of_not_next {V : Type} {P : Params V} {c : D.Cfg V}
    (hs : ∀ c', D.step P c ≠ .next c') : HaltsIn P 1 c := by
  unfold HaltsIn run
  cases h : D.step P c with
  | next c' => exact absurd h (hs c')
  | _ => nofun

/-! ## suffix independence: `step` on a stack with states `s ++ r` follows `rstep` on `s` -/

def sts {V : Type} (stk : List (Entry V)) : List Nat := stk.map Entry.st

theorem sts_drop {V : Type} (stk : List (Entry V)) (n : Nat) : sts (stk.drop n) = (sts stk).drop n :=
  List.map_drop

theorem sts_length {V : Type} (stk : List (Entry V)) : (sts stk).length = stk.length :=
  List.length_map _

theorem stTop_eq {V : Type} (stk : List (Entry V)) : stTop stk = (sts stk).headD 0 := by
  cases stk <;> rfl

/-- A `next` step of the driver whose stack has the states `t :: s1 ++ r`, seen from the reduce-only
    move on `t :: s1`: when that move is `next s'` the step is that reduction (the states become
    `s' ++ r`); when it is `under` the step is a reduction that cuts the stack down to at most
    `|r| + 1` entries; when it is `stop` the step is a shift. -/
theorem step_rstep {V : Type} {P : Params V} {c c' : D.Cfg V} {t : Nat} {s1 r : List Nat}
    (hs : sts c.stack = t :: s1 ++ r) (hc : D.step P c = .next c') :
    match rstep P.L P.errC P.accC P.rule (look P.eofVal c).1 (t :: s1) with
    | .next s' => c'.rest = c.rest ∧ sts c'.stack = s' ++ r ∧ s'.length ≤ s1.length + 2 ∧ s' ≠ []
    | .under => c'.rest = c.rest ∧ c'.stack.length ≤ r.length + 1 ∧ r ≠ []
    | .stop => c'.rest = c.rest.tail ∧ c'.stack.length = c.stack.length + 1 ∧
        ∃ p v, P.L p (look P.eofVal c).1 = some v ∧ isShift P.errC P.accC v = true := by
  have htop : stTop c.stack = t := by rw [stTop_eq, hs]; rfl
  have hlen : c.stack.length = s1.length + 1 + r.length := by
    rw [← sts_length, hs, List.length_append, List.length_cons]
  cases step_move hc (by simp) with
  | @shift a hne hL he hacc hpos =>
    have : rstep P.L P.errC P.accC P.rule (look P.eofVal c).1 (t :: s1) = .stop := by
      simp only [rstep, htop ▸ hL, he, hacc, hpos, if_false, if_true]
    rw [this]
    exact ⟨rfl, rfl, _, a, hL, by simp [isShift, hpos, he, hacc]⟩
  | @reduce a g lhs n hL he hacc hpos hr hn hg hg0 =>
    by_cases hn1 : n ≤ s1.length
    · have hd : sts (c.stack.drop n) = (t :: s1).drop n ++ r := by
        rw [sts_drop, hs, List.drop_append_of_le_length (Nat.le_succ_of_le hn1)]
      obtain ⟨u, rest', hu⟩ := List.exists_cons_of_ne_nil
        (mt List.drop_eq_nil_iff.mp (Nat.not_le.mpr (Nat.lt_succ_of_le hn1)) : (t :: s1).drop n ≠ [])
      have hgu : P.L u lhs = some g := by
        rw [stTop_eq, hd, hu] at hg; exact hg
      have : rstep P.L P.errC P.accC P.rule (look P.eofVal c).1 (t :: s1) =
          .next (g.toNat :: u :: rest') := by
        simp only [rstep, htop ▸ hL, he, hacc, hpos, hr, hn1, hu, hgu, hg0, if_false, if_true]
      rw [this]
      refine ⟨rfl, by show g.toNat :: sts (c.stack.drop n) = _; rw [hd, hu]; rfl, ?_, List.cons_ne_nil _ _⟩
      have := congrArg List.length hu
      simp only [List.length_drop, List.length_cons] at this ⊢
      omega
    · have : rstep P.L P.errC P.accC P.rule (look P.eofVal c).1 (t :: s1) = .under := by
        simp only [rstep, htop ▸ hL, he, hacc, hpos, hr, hn1, if_false]
      rw [this]
      refine ⟨rfl, ?_, fun h0 => ?_⟩
      · show (c.stack.drop n).length + 1 ≤ r.length + 1
        rw [List.length_drop]; omega
      · rw [h0] at hlen; simp only [List.length_nil] at hlen; omega

/-- every state on the stack occurs as a non-negative value in the row of the state below it,
    and the bottom state is 0 -/
inductive Good (L : Nat → Nat → Option Int) : List Nat → Prop
  | base : Good L [0]
  | cons {q p : Nat} {s : List Nat} :
      (∃ X v, L p X = some v ∧ 0 ≤ v ∧ q = v.toNat) → Good L (p :: s) → Good L (q :: p :: s)

theorem Good.drop {L : Nat → Nat → Option Int} : ∀ (n : Nat) {s : List Nat}, Good L s →
    n < s.length → Good L (s.drop n)
  | 0, _, h, _ => by simpa using h
  | n + 1, _, .base, hn => by simp at hn
  | n + 1, _, .cons _ h, hn => by
    simp only [List.drop_succ_cons]
    exact Good.drop n h (by simp at hn ⊢; omega)

theorem Good.push {L : Nat → Nat → Option Int} {s : List Nat} (h : Good L s) {X : Nat} {v : Int}
    (hv : L (s.headD 0) X = some v) (h0 : 0 ≤ v) : Good L (v.toNat :: s) := by
  cases h with
  | base => exact .cons ⟨X, v, hv, h0, rfl⟩ .base
  | cons ha h => exact .cons ⟨X, v, hv, h0, rfl⟩ (.cons ha h)

theorem step_good {V : Type} (P : Params V) (c c' : D.Cfg V) (hg : Good P.L (sts c.stack))
    (h : D.step P c = .next c') : Good P.L (sts c'.stack) := by
  cases step_move h (by simp) with
  | shift hne hL he hacc hpos => exact hg.push (stTop_eq _ ▸ hL) (Int.le_of_lt hpos)
  | @reduce a g lhs n hL he hacc hpos hr hn hg' hg0 =>
    have hd := Good.drop n hg (by rw [sts_length]; exact hn)
    rw [← sts_drop] at hd
    exact hd.push (stTop_eq _ ▸ hg') (Int.not_lt.mp hg0)

structure TermOK (L : Nat → Nat → Option Int) (errC accC : Int) (rule : Nat → Option (Sym × Nat))
    (F : Nat) : Prop where
  bot : ∀ a, simHalts L errC accC rule F a [0] = true
  adj : ∀ p X v a, L p X = some v → 0 ≤ v → simHalts L errC accC rule F a [v.toNat, p] = true
  noEof : ∀ p v, L p 1 = some v → isShift errC accC v = false

/-- one segment of a reduce phase: while the simulation from `s` (the top part of the stack)
    answers `next` the driver follows it; when it answers `stop` the driver halts or shifts, when
    it answers `under` the driver halts or cuts the stack down to at most `|r| + 1` entries.
    `F` is the number of moves the simulation has left, `s ++ r` the states on the stack (`s` simulated);
    the continuation `K` says that every configuration the segment can end in — after a shift (less
    input, at most `F` entries more) or under `s` — halts within `N` steps; then `c` halts within
    `N + F`. -/
theorem segment {V : Type} (P : Params V) (hEof : ∀ p v, P.L p 1 = some v → isShift P.errC P.accC v = false)
    (N : Nat) : ∀ (F : Nat) (c : D.Cfg V) (s r : List Nat),
    simHalts P.L P.errC P.accC P.rule F (look P.eofVal c).1 s = true → s ≠ [] →
    sts c.stack = s ++ r → Good P.L (sts c.stack) →
    (∀ c', Good P.L (sts c'.stack) →
      (c'.rest.length < c.rest.length ∧ c'.stack.length ≤ s.length + r.length + F) ∨
      (c'.rest = c.rest ∧ c'.stack.length ≤ r.length + 1 ∧ r ≠ []) → HaltsIn P N c') →
    HaltsIn P (N + F) c
  | 0, c, s, r, h, _, _, _, _ => by simp [simHalts] at h
  | F + 1, c, s, r, h, hne, hs, hg, K => by
    by_cases hx : ∃ c', D.step P c = .next c'
    case neg => exact (HaltsIn.of_not_next (fun c' hc' => hx ⟨c', hc'⟩)).mono (by omega)
    obtain ⟨c', hc'⟩ := hx
    obtain ⟨t, s1, rfl⟩ := List.exists_cons_of_ne_nil hne
    have hlen : c.stack.length = s1.length + 1 + r.length := by
      rw [← sts_length, hs, List.length_append, List.length_cons]
    have key := step_rstep hs hc'
    have hg' := step_good P c c' hg hc'
    unfold simHalts at h
    cases hr : rstep P.L P.errC P.accC P.rule (look P.eofVal c).1 (t :: s1) with
    | stop =>
      rw [hr] at key
      obtain ⟨hrest, hl, p, v, hv, hsh⟩ := key
      have hlt : c'.rest.length < c.rest.length := by
        rw [hrest]
        cases hcr : c.rest with
        | nil =>
          rw [look_nil hcr] at hv
          rw [hEof p v hv] at hsh
          cases hsh
        | cons x xs => exact Nat.lt_succ_self _
      refine (HaltsIn.of_next hc' (K c' hg' (.inl ⟨hlt, ?_⟩))).mono (by omega)
      rw [hl, hlen, List.length_cons]; omega
    | under =>
      rw [hr] at key
      exact (HaltsIn.of_next hc' (K c' hg' (.inr key))).mono (by omega)
    | next s' =>
      rw [hr] at key h
      obtain ⟨hrest, hs', hl', hne'⟩ := key
      rw [show look P.eofVal c = look P.eofVal c' by unfold look; rw [hrest]] at h
      refine HaltsIn.of_next hc' (segment P hEof N F c' s' r h hne' hs' hg' fun c'' hg'' halt => ?_)
      rw [hrest] at halt
      refine K c'' hg'' (halt.imp (fun h1 => ⟨h1.1, ?_⟩) id)
      rw [List.length_cons]; omega

/-- fuel that suffices for a configuration with at most `m` tokens left and at most `h` stack entries,
    when every simulation ends within `F` moves.  A segment costs at most `F` steps; it ends with a shift
    (one token less, at most `F` entries more: `termC_A2`) or below the simulated states (same input, a
    lower stack: `termC_A3`). -/
def termC (F m h : Nat) : Nat := (m + 1) * (h + m * F) * F

theorem termC_A3 (F m h : Nat) : termC F m h + F ≤ termC F m (h + 1) := by
  unfold termC
  have : (m + 1) * (h + 1 + m * F) * F = (m + 1) * (h + m * F) * F + (m + 1) * F := by
    rw [← Nat.add_mul, show h + 1 + m * F = (h + m * F) + 1 by omega, Nat.mul_add, Nat.mul_one]
  rw [this]
  have : F ≤ (m + 1) * F := Nat.le_mul_of_pos_left _ (by omega)
  omega

theorem termC_A2 (F m h : Nat) : termC F m (h + 1 + F) + F ≤ termC F (m + 1) (h + 1) := by
  unfold termC
  have e : h + 1 + F + m * F = h + 1 + (m + 1) * F := by rw [Nat.add_mul]; omega
  rw [e]
  have hX : 1 ≤ h + 1 + (m + 1) * F := by omega
  generalize h + 1 + (m + 1) * F = X at hX ⊢
  have e2 : (m + 1 + 1) * X * F = (m + 1) * X * F + X * F := by
    rw [← Nat.add_mul, Nat.succ_mul (m + 1) X]
  rw [e2]
  have : F ≤ X * F := Nat.le_mul_of_pos_left _ hX
  omega

def termBound (F len : Nat) : Nat := termC F len 1

/-- The termination argument for a fixed bound `m` on the remaining input, given the claim for every
    smaller bound (`ihm`): by induction on the bound `h` of the stack height.  The top state (on the
    bottom entry) or the top two states start a segment whose simulation halts (`TermOK.bot`, `adj`);
    the segment ends in a shift, where `ihm` applies, or under the simulated states with a lower stack,
    where the inner hypothesis applies.  `halts_of_ok` is the outer induction on `m`. -/
theorem halts_core {V : Type} (P : Params V) (F : Nat)
    (ok : TermOK P.L P.errC P.accC P.rule F) (m : Nat)
    (ihm : ∀ m', m' < m → ∀ (h : Nat) (c : D.Cfg V), Good P.L (sts c.stack) →
      c.rest.length ≤ m' → c.stack.length ≤ h → HaltsIn P (termC F m' h) c) :
    ∀ (h : Nat) (c : D.Cfg V), Good P.L (sts c.stack) → c.rest.length ≤ m →
      c.stack.length ≤ h → HaltsIn P (termC F m h) c := by
  intro h
  induction h with
  | zero =>
    intro c hg _ hl
    have : sts c.stack = [] := by
      have : c.stack = [] := List.eq_nil_of_length_eq_zero (by omega)
      rw [this]; rfl
    rw [this] at hg
    cases hg
  | succ h ihh =>
    intro c hg hm hl
    have key : ∀ s r : List Nat, s ≠ [] → sts c.stack = s ++ r →
        simHalts P.L P.errC P.accC P.rule F (look P.eofVal c).1 s = true →
        (r ≠ [] → r.length + 1 ≤ h) → HaltsIn P (termC F m (h + 1)) c := by
      intro s r hne hs hsim hr
      have hlen : c.stack.length = s.length + r.length := by
        rw [← sts_length, hs, List.length_append]
      have := segment P ok.noEof (termC F m (h + 1) - F) F c s r hsim hne hs hg (by
        intro c' hg' halt
        rcases halt with ⟨hlt, hl'⟩ | ⟨hrest, hl', hrne⟩
        · cases m with
          | zero => omega
          | succ m' =>
            have h1 := ihm m' (by omega) (h + 1 + F) c' hg' (by omega) (by omega)
            have h2 := termC_A2 F m' h
            exact h1.mono (by omega)
        · have h1 := ihh c' hg' (by rw [hrest]; exact hm) (by have := hr hrne; omega)
          have h2 := termC_A3 F m h
          exact h1.mono (by omega))
      have h3 := termC_A3 F m h
      exact this.mono (by omega)
    generalize hx : sts c.stack = x at hg
    cases hg with
    | base => exact key [0] [] (by simp) (by rw [hx]; rfl) (ok.bot _) (fun h => absurd rfl h)
    | @cons q p s2 hadj hg2 =>
      obtain ⟨X, v, hv, hv0, rfl⟩ := hadj
      refine key [v.toNat, p] s2 (by simp) (by rw [hx]; rfl) (ok.adj p X v _ hv hv0) ?_
      intro _
      have : c.stack.length = s2.length + 2 := by rw [← sts_length, hx]; rfl
      omega

theorem halts_of_ok {V : Type} (P : Params V) (F : Nat)
    (ok : TermOK P.L P.errC P.accC P.rule F) : ∀ (m h : Nat) (c : D.Cfg V),
    Good P.L (sts c.stack) → c.rest.length ≤ m → c.stack.length ≤ h → HaltsIn P (termC F m h) c := by
  intro m
  induction m using Nat.strongRecOn with
  | _ m ih => exact halts_core P F ok m ih

/-! ## from the Bool certificate to `TermOK` -/

theorem cell_lt_ncols {T : Dense} {q a : Nat} {v : Int} (h : cell T q a = some v) : a < ncols T := by
  obtain ⟨row, hq, ha⟩ := cell_some h
  have h1 : row.length ≤ ncols T :=
    (le_foldl (step := fun m (row : List Int) => max m row.length) (fun m _ => Nat.le_max_left m _) T 0).2
      row (List.mem_of_getElem? hq) _ fun m => Nat.le_max_right m _
  have h2 : a < row.length := (List.getElem?_eq_some_iff.mp ha).1
  omega

theorem simHalts_of_none {L : Nat → Nat → Option Int} {errC accC : Int}
    {rule : Nat → Option (Sym × Nat)} {F : Nat} (hF : 0 < F) {a t : Nat} {s : List Nat}
    (h : L t a = none) : simHalts L errC accC rule F a (t :: s) = true := by
  obtain ⟨F', rfl⟩ : ∃ F', F = F' + 1 := ⟨F - 1, by omega⟩
  simp only [simHalts, rstep, h]

theorem simAll_all {T : Dense} {errC accC : Int} {rule : Nat → Option (Sym × Nat)} {F : Nat}
    (hF : 0 < F) {t : Nat} {s : List Nat}
    (h : simAll (cell T) errC accC rule F (ncols T) (t :: s) = true) (a : Nat) :
    simHalts (cell T) errC accC rule F a (t :: s) = true := by
  by_cases ha : a < ncols T
  · exact List.all_eq_true.mp h a (List.mem_range.mpr ha)
  · cases hc : cell T t a with
    | none => exact simHalts_of_none hF hc
    | some v => exact absurd (cell_lt_ncols hc) ha

theorem certTermWith_ok {T : Dense} {errC accC : Int} {rule : Nat → Option (Sym × Nat)} {F : Nat}
    (h : certTermWith (cell T) errC accC rule T F = true) : TermOK (cell T) errC accC rule F := by
  unfold certTermWith certTermCore at h
  simp only [Bool.and_eq_true, decide_eq_true_eq] at h
  obtain ⟨⟨⟨hF, h0⟩, hadj⟩, heof⟩ := h
  refine ⟨simAll_all hF h0, ?_, ?_⟩
  · intro p X v a hv hv0
    obtain ⟨row, hq, hX⟩ := cell_some hv
    have h1 := List.all_eq_true.mp hadj (row, p) (List.mem_zipIdx_iff_getElem?.mpr hq)
    have h2 := List.all_eq_true.mp h1 v (List.mem_of_getElem? hX)
    simp only [Bool.or_eq_true, decide_eq_true_eq] at h2
    rcases h2 with (h2 | h2) | h2
    · omega
    · exact simHalts_of_none hF (by unfold cell; rw [List.getElem?_eq_none h2]; rfl)
    · exact simAll_all hF h2 a
  · intro p v hv
    obtain ⟨row, hq, hX⟩ := cell_some hv
    have h1 := List.all_eq_true.mp heof row (List.mem_of_getElem? hq)
    rw [hX] at h1
    simpa using h1

/-! ## the array-backed evaluator computes the same certificate -/

theorem cellA_eq (T : Dense) : cellA (T.map List.toArray).toArray = cell T := by
  funext q a
  unfold cellA cell
  rw [List.getElem?_toArray, List.getElem?_map]
  cases T[q]? <;> simp

theorem ruleA_eq (G : Grammar) :
    ruleA (G.rules.map fun rl => (rl.lhs, rl.rhs.length)).toArray = (tparams G [] 0).rule := by
  funext r
  unfold ruleA tparams dparams
  simp only [List.getElem?_toArray, List.getElem?_map]

theorem certTermFast_eq (G : Grammar) (T : Dense) (n F : Nat) :
    certTermFast G T n F = certTerm G T n F := by
  unfold certTermFast certTerm
  rw [cellA_eq, ruleA_eq]
  rfl

end Y.Term
