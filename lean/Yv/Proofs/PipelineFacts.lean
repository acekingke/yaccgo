import Yv.Proofs.GenTabFacts
import Yv.Proofs.LAOracleFacts
import Yv.Cert.CompleteX
/-! Glue for the end-to-end corollaries of `Yv/Props/C01gen.lean`:

    * the canonical-collection certificate `certCanon` (which `buildL`'s automaton always passes)
      implies, for a well-formed grammar, the LR(0) certificate `certA` used by C01/C02 and the
      side condition `gotosOK` of the table generator;
    * the lookahead table returned by `laL` satisfies `laOK` and `laTerm` (lookaheads are terminals,
      items of rule 0 only carry the end marker) — by an invariant of the iteration, without any
      productivity assumption on the grammar. -/
namespace Y.GT

/-! ## `certCanon` ⇒ `certA`, `gotosOK` -/

theorem Cl0_cases {G : Grammar} {K : Item → Prop} {it : Item} (h : Cl0 G K it) :
    K it ∨ (it.d = 0 ∧ ∃ r d rl rl', Cl0 G K ⟨r, d⟩ ∧ G.rules[r]? = some rl ∧
      G.rules[it.r]? = some rl' ∧ rl.rhs[d]? = some rl'.lhs) := by
  cases h with
  | base _ hk => exact Or.inl hk
  | step r d r' rl rl' h1 h2 h3 h4 => exact Or.inr ⟨rfl, r, d, rl, rl', h1, h2, h3, h4⟩

/-- the kernel of a state of a canonical automaton: the start item for state 0, the items of a
    predecessor advanced over the entry symbol for the others -/
def KernOf (G : Grammar) (A : Auto) (q : Nat) (K : Item → Prop) : Prop :=
  (q = 0 ∧ ∀ it, K it ↔ it = ⟨0, 0⟩) ∨
  (q ≠ 0 ∧ ∃ q' X, q' < A.n ∧ (X, q) ∈ A.gts q' ∧
    ∀ it, K it ↔ adv0 G X (fun x => x ∈ A.its q') it)

theorem st_desc {G : Grammar} {A : Auto} (ok : CanonOK G A) {q : Nat} (hq : q < A.n) :
    ∃ K, (∀ it, it ∈ A.its q ↔ Cl0 G K it) ∧ KernOf G A q K := by
  by_cases h0 : q = 0
  · subst h0
    exact ⟨fun x => x = ⟨0, 0⟩, ok.s0, Or.inl ⟨rfl, fun _ => Iff.rfl⟩⟩
  · obtain ⟨q', hq', X, hX⟩ := ok.reach q hq h0
    have hq'n : q' < A.n := Nat.lt_trans hq' hq
    exact ⟨_, (ok.entry q' hq'n X q hX).2.2, Or.inr ⟨h0, q', X, hq'n, hX, fun _ => Iff.rfl⟩⟩

section Canon
variable {G : Grammar} {nS : Nat} {A : Auto}

theorem canon_item_ok (hG : GOK G nS) (ok : CanonOK G A) {q : Nat} (hq : q < A.n) {it : Item}
    (hit : it ∈ A.its q) : it.r < G.rules.length ∧ it.d ≤ (G.rhsOf it.r).length := by
  obtain ⟨K, hm, hk⟩ := st_desc ok hq
  rcases Cl0_cases ((hm it).mp hit) with h | ⟨hd, _, _, _, rl', _, _, hr', _⟩
  · rcases hk with ⟨_, hk⟩ | ⟨_, q', X, _, _, hk⟩
    · rw [(hk it).mp h]
      obtain ⟨rl0, hr0, _⟩ := hG.r0
      exact ⟨rule_lt hr0, Nat.zero_le _⟩
    · obtain ⟨r, d, rl, rfl, hr, hx, _⟩ := (hk it).mp h
      obtain ⟨hd, _⟩ := List.getElem?_eq_some_iff.mp hx
      exact ⟨rule_lt hr, by simp only [rhsOf_of_get hr]; exact hd⟩
  · exact ⟨rule_lt hr', by rw [hd]; exact Nat.zero_le _⟩

theorem canon_s0_dot (ok : CanonOK G A) {it : Item} (hit : it ∈ A.its 0) : it.d = 0 := by
  rcases Cl0_cases ((ok.s0 it).mp hit) with h | ⟨hd, _⟩
  · rw [h]
  · exact hd

theorem canon_start_only0 (hG : GOK G nS) (ok : CanonOK G A) {q : Nat} (hq : q < A.n)
    (hit : (⟨0, 0⟩ : Item) ∈ A.its q) : q = 0 := by
  obtain ⟨K, hm, hk⟩ := st_desc ok hq
  rcases hk with ⟨h0, _⟩ | ⟨_, q', X, _, _, hk⟩
  · exact h0
  · exfalso
    rcases Cl0_cases ((hm _).mp hit) with h | ⟨_, r, d, rl, rl', _, hr, hr', hx⟩
    · obtain ⟨r, d, rl, he, _⟩ := (hk _).mp h
      cases he
    · exact (gwfx_of_gok hG).noStart r rl _ rl' d hr hr' hx rfl

theorem canon_edge (ok : CanonOK G A) {q : Nat} (hq : q < A.n) {e : Sym × Nat}
    (he : e ∈ A.gts q) : e.2 < A.n ∧ e.2 ≠ 0 ∧
      ∀ it ∈ A.its e.2, it.d = 0 ∨
        ((G.rhsOf it.r)[it.d - 1]? = some e.1 ∧ (⟨it.r, it.d - 1⟩ : Item) ∈ A.its q) := by
  obtain ⟨X, p⟩ := e
  obtain ⟨⟨jt, hjt, hjx⟩, hp, hm⟩ := ok.entry q hq X p he
  refine ⟨hp, ?_, ?_⟩
  · intro h0
    simp only at h0
    subst h0
    obtain ⟨rl, hr, hx⟩ := rhsOf_get.mp hjx
    have : (⟨jt.r, jt.d + 1⟩ : Item) ∈ A.its 0 :=
      (hm _).mpr (Cl0.base _ ⟨jt.r, jt.d, rl, rfl, hr, hx, hjt⟩)
    have := canon_s0_dot ok this
    cases this
  · intro it hit
    rcases Cl0_cases ((hm it).mp hit) with h | ⟨hd, _⟩
    · obtain ⟨r, d, rl, rfl, hr, hx, hmem⟩ := h
      right
      exact ⟨rhsOf_get.mpr ⟨rl, hr, by simpa using hx⟩, by simpa using hmem⟩
    · exact Or.inl hd

theorem canon_gotoC (ok : CanonOK G A) {q : Nat} (hq : q < A.n) {it : Item} (hit : it ∈ A.its q)
    {X : Sym} (hX : (G.rhsOf it.r)[it.d]? = some X) :
    ∃ p, A.goto q X = some p ∧ (⟨it.r, it.d + 1⟩ : Item) ∈ A.its p := by
  obtain ⟨p, hg⟩ := Auto.goto_of_mem (ok.gotoC q hq it hit X hX)
  refine ⟨p, hg, ?_⟩
  obtain ⟨rl, hr, hx⟩ := rhsOf_get.mp hX
  exact ((ok.entry q hq X p (Auto.goto_mem hg)).2.2 _).mpr
    (Cl0.base _ ⟨it.r, it.d, rl, rfl, hr, hx, hit⟩)

theorem canon_just (ok : CanonOK G A) {q : Nat} (hq : q < A.n) {it : Item} (hit : it ∈ A.its q)
    (hd : it.d = 0) (hr : it.r ≠ 0) :
    ∃ jt ∈ A.its q, (G.rhsOf jt.r)[jt.d]? = some (G.lhsOf it.r) := by
  obtain ⟨K, hm, hk⟩ := st_desc ok hq
  rcases Cl0_cases ((hm it).mp hit) with h | ⟨_, r, d, rl, rl', hc, hrl, hrl', hx⟩
  · exfalso
    rcases hk with ⟨_, hk⟩ | ⟨_, q', X, _, _, hk⟩
    · rw [(hk it).mp h] at hr; exact hr rfl
    · obtain ⟨r, d, rl, rfl, _⟩ := (hk it).mp h
      cases hd
  · refine ⟨⟨r, d⟩, (hm _).mpr hc, ?_⟩
    rw [lhsOf_of_get hrl']
    exact rhsOf_get.mpr ⟨rl, hrl, hx⟩

theorem certA_of_canon (hG : gramWF G nS = true) (hC : certCanon G A = true) : certA G A = true := by
  have hG' := gramWF_ok hG
  have ok := certCanon_ok hC
  unfold certA
  simp only [Bool.and_eq_true, decide_eq_true_eq, List.all_eq_true, List.mem_range]
  refine ⟨⟨⟨⟨⟨⟨⟨⟨ok.npos, ok.glen⟩, ?_⟩, ?_⟩, ?_⟩, ?_⟩, ?_⟩, ?_⟩, ?_⟩
  · intro q hq it hit
    exact canon_item_ok hG' ok hq hit
  · intro it hit
    simp [canon_s0_dot ok hit]
  · simpa using (ok.s0 _).mpr (Cl0.base _ rfl)
  · intro q hq
    by_cases h0 : q = 0
    · simp [h0]
    · have : ¬ (⟨0, 0⟩ : Item) ∈ A.its q := fun h => h0 (canon_start_only0 hG' ok hq h)
      simp [this]
  · intro q hq e he
    obtain ⟨h1, h2, h3⟩ := canon_edge (G := G) ok hq he
    refine ⟨⟨h1, h2⟩, fun it hit => ?_⟩
    rcases h3 it hit with h | ⟨ha, hb⟩
    · simp [h]
    · simp [ha, hb]
  · intro q hq it hit
    split
    · rfl
    · rename_i X hX
      obtain ⟨p, hg, hm⟩ := canon_gotoC ok hq hit hX
      simp [hg, hm]
  · intro q hq it hit
    by_cases hd : it.d = 0
    · by_cases hr : it.r = 0
      · simp [hr]
      · obtain ⟨jt, hjt, hj⟩ := canon_just ok hq hit hd hr
        simp only [Bool.or_eq_true, bne_iff_ne, ne_eq, beq_iff_eq, List.any_eq_true]
        exact Or.inr ⟨jt, hjt, hj⟩
    · simp [hd]

theorem gotosOK_of_canon (hG : gramWF G nS = true) (hC : certCanon G A = true) :
    gotosOK nS A = true := by
  have ok := certCanon_ok hC
  refine gotosOK_iff.mpr fun q hq => ⟨ok.symsNodup q hq, fun ⟨X, p⟩ he => ?_⟩
  obtain ⟨⟨jt, _, hjx⟩, _, _⟩ := ok.entry q hq X p he
  obtain ⟨rl, hr, hx⟩ := rhsOf_get.mp hjx
  exact (gramWF_ok hG).rhs_ok jt.r rl hr X (List.mem_of_getElem? hx)

end Canon

/-! ## the table returned by `laL`: lookaheads are terminals, rule 0 only carries `$` -/

/-- the lookahead property (hence `LP`) that the iteration preserves about a lookahead `a` stored on
    item `it`: it is a terminal, and `$` if the item is of rule 0 -/
def LP (G : Grammar) (it : Item) (a : Sym) : Prop := G.isT a = true ∧ (it.r = 0 → a = 1)

theorem mem_firstSeq {S : Sets} {a : Sym} : ∀ {γ : List Sym}, a ∈ firstSeq S γ →
    ∃ x ∈ γ, a ∈ S.first x := by
  intro γ
  induction γ with
  | nil => intro h; cases h
  | cons y ys ih =>
    intro h
    simp only [firstSeq, List.mem_append] at h
    rcases h with h | h
    · exact ⟨y, List.mem_cons_self, h⟩
    · split at h
      · obtain ⟨x, hx, hax⟩ := ih h
        exact ⟨x, List.mem_cons_of_mem _ hx, hax⟩
      · cases h

theorem firstTab_isT (G : Grammar) (nS : Nat) :
    ∀ x a, a ∈ (firstTab G nS).getD x [] → G.isT a = true :=
  firstTab_ind (Q := fun _ a => G.isT a = true) (fun _ ht => ht) (fun _ hft _ _ a ha =>
    (mem_firstSeq ha).elim fun y hy => hft y a hy.2)

theorem laTab_LP {G : Grammar} {nS : Nat} {S : Sets} {A : Auto} (hG : GOK G nS)
    (hS : ∀ x a, a ∈ S.first x → G.isT a = true) : TabP (fun _ => LP G) (laTab G S A) := by
  refine laTab_ind ⟨⟨by simp [Grammar.isT, hG.nT1], fun _ => rfl⟩,
    fun q it b B jt a _ hB _ _ hj hab => ?_, fun _ _ _ _ _ ha _ _ => ha⟩
  obtain ⟨x, _, hax⟩ := mem_firstSeq hab
  refine ⟨hS x a hax, fun h0 => ?_⟩
  -- rule 0 is not closed into: its left-hand side occurs in no right-hand side
  obtain ⟨rl', hr', hl'⟩ := isRuleOf_ok hj
  obtain ⟨rl, hr, hx⟩ := rhsOf_get.mp hB
  exact absurd h0 ((gwfx_of_gok hG).noStart it.r rl jt.r rl' it.d hr hr' (hl'.symm ▸ hx))

theorem laL_LP {G : Grammar} {nS : Nat} {A : Auto} {t : LATab} (hG : gramWF G nS = true)
    (h : laL G nS A = some t) (q : Nat) (it : Item) (a : Sym) (ha : a ∈ t.get q it) :
    G.isT a = true ∧ (it.r = 0 → a = 1) := by
  obtain ⟨S, hS, ht, _⟩ := laL_some h
  subst ht
  exact laTab_LP (gramWF_ok hG) (by rw [(setsL_some hS).1]; exact firstTab_isT G nS) q it a ha

theorem laL_laOK {G : Grammar} {nS : Nat} {A : Auto} {t : LATab} (hG : gramWF G nS = true)
    (h : laL G nS A = some t) : laOK G A t = true :=
  laOK_iff.mpr fun q _ it _ _ a ha => laL_LP hG h q it a ha

theorem laL_laTerm {G : Grammar} {nS : Nat} {A : Auto} {t : LATab} (hG : gramWF G nS = true)
    (h : laL G nS A = some t) : laTerm G A t = true := by
  unfold laTerm
  simp only [List.all_eq_true, List.mem_range]
  intro q _ it _ a ha
  exact (laL_LP hG h q it a ha).1

end Y.GT
