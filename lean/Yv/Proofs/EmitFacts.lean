import Yv.Model.EmitRead
/-! Lemmas for the read-back theorems of `Yv/Props/C11b.lean`: the `List Char` form of every emitted
    text, and what each reader does on it.

    A reader lemma says `reader (printed ++ rest) = some (data, rest)` for every `rest` that cannot continue
    the last token (`NoHead`).  The loops are run with any fuel above the length of the text, which is what
    the entry points give them: every round consumes at least one character. -/
namespace Emit

theorem toList_foldl_append (l : List String) (acc : String) :
    (l.foldl (· ++ ·) acc).toList = acc.toList ++ (l.map String.toList).flatten := by
  induction l generalizing acc with
  | nil => simp
  | cons a l ih => simp [ih, List.append_assoc]

theorem toList_cat (l : List String) : (cat l).toList = (l.map String.toList).flatten := by
  simp [cat, toList_foldl_append]

theorem digit_facts : ∀ k, k < 10 →
    (Char.ofNat (48 + k)).isDigit = true ∧ (Char.ofNat (48 + k)).toNat - 48 = k := by decide

theorem digits_isDigit (n : Nat) : ∀ c ∈ digits n, c.isDigit = true := by
  fun_induction digits n with
  | case1 _ n h => simpa using (digit_facts n h).1
  | case2 _ n h ih =>
    simp only [List.mem_append, List.mem_singleton]
    rintro c (hc | rfl)
    · exact ih c hc
    · exact (digit_facts _ (Nat.mod_lt _ (by decide))).1

theorem digits_ne_nil (n : Nat) : digits n ≠ [] := by
  rw [digits]; split <;> simp

theorem digVal_digits (n : Nat) : digVal (digits n) = n := by
  fun_induction digits n with
  | case1 _ n h => simpa [digVal] using (digit_facts n h).2
  | case2 _ n h ih =>
    rw [digVal, List.foldl_append, ← digVal, ih]
    simp [(digit_facts (n % 10) (by omega)).2]; omega

/-- `%d` as a list of characters -/
def decL (i : Int) : List Char :=
  match i with
  | .ofNat n => digits n
  | .negSucc n => '-' :: digits (n + 1)

theorem toList_dec (i : Int) : (dec i).toList = decL i := by
  cases i <;> simp [dec, decL]

theorem toList_dec_nat (n : Nat) : (dec (n : Int)).toList = digits n := toList_dec (Int.ofNat n)

/-! ## "the text does not begin with a character satisfying `p`" -/

def NoHead (p : Char → Bool) : List Char → Prop
  | [] => True
  | c :: _ => p c = false

@[simp] theorem NoHead_cons (p : Char → Bool) (c : Char) (l : List Char) :
    NoHead p (c :: l) ↔ p c = false := Iff.rfl

/-- A keyword `kw` in front decides `NoHead` by its first character.  For `kw = "…".toList` the equation `e`
    is `String.toList_ofList`: a literal unifies with `String.ofList [c, …]`, so its `toList` is never evaluated
    (the same reading of literals is used wherever `String.toList_ofList` or `String.ofList [c]` appears below). -/
theorem noHead_kw {p : Char → Bool} {kw t : List Char} {c : Char} (e : kw = c :: t) (h : p c = false)
    (x : List Char) : NoHead p (kw ++ x) := by
  subst e; exact h

theorem takeWhile_noHead {p : Char → Bool} {l : List Char} (h : NoHead p l) : l.takeWhile p = [] := by
  cases l with
  | nil => rfl
  | cons c l => simp [(NoHead_cons ..).1 h]

theorem dropWhile_noHead {p : Char → Bool} {l : List Char} (h : NoHead p l) : l.dropWhile p = l := by
  cases l with
  | nil => rfl
  | cons c l => simp [(NoHead_cons ..).1 h]

theorem takeWhile_append_noHead {p : Char → Bool} {a rest : List Char}
    (ha : ∀ c ∈ a, p c = true) (hr : NoHead p rest) : (a ++ rest).takeWhile p = a := by
  rw [List.takeWhile_append_of_pos ha, takeWhile_noHead hr, List.append_nil]

theorem dropWhile_append_noHead {p : Char → Bool} {a rest : List Char}
    (ha : ∀ c ∈ a, p c = true) (hr : NoHead p rest) : (a ++ rest).dropWhile p = rest := by
  rw [List.dropWhile_append_of_pos ha, dropWhile_noHead hr]

@[simp] theorem strip_append (p r : List Char) : strip p (p ++ r) = some r := by
  induction p with
  | nil => cases r <;> rfl
  | cons c p ih => simp [strip, ih]

@[simp] theorem strip_cons_self (c : Char) (x : List Char) : strip [c] (c :: x) = some x :=
  strip_append [c] x

theorem readNatL_digits (n : Nat) (rest : List Char) (hr : NoHead Char.isDigit rest) :
    readNatL (digits n ++ rest) = some (n, rest) := by
  unfold readNatL
  rw [takeWhile_append_noHead (digits_isDigit n) hr, dropWhile_append_noHead (digits_isDigit n) hr,
    digVal_digits]
  simp [digits_ne_nil n]

theorem decL_head (i : Int) : ∃ c t, decL i = c :: t ∧ startsInt c = true := by
  cases i with
  | ofNat n =>
    cases h : digits n with
    | nil => exact absurd h (digits_ne_nil n)
    | cons c l => exact ⟨c, l, h, by simp [startsInt, digits_isDigit n c (h ▸ List.mem_cons_self)]⟩
  | negSucc n => exact ⟨'-', _, rfl, by decide⟩

theorem readIntL_dec (i : Int) (rest : List Char) (hr : NoHead Char.isDigit rest) :
    readIntL (decL i ++ rest) = some (i, rest) := by
  cases i with
  | ofNat n =>
    have hn := readNatL_digits n rest hr
    have hd := digits_isDigit n
    cases h : digits n with
    | nil => exact absurd h (digits_ne_nil n)
    | cons c l =>
      rw [h] at hn hd
      have hc : c ≠ '-' := fun e => absurd (hd c List.mem_cons_self) (e ▸ by decide)
      simp only [decL, h, List.cons_append, readIntL, hc, if_false]
      rw [← List.cons_append, hn]; rfl
  | negSucc n =>
    simp [decL, readIntL, readNatL_digits (n + 1) rest hr, Int.negSucc_eq]

def arrL (xs : List Int) : List Char := (xs.map fun v => decL v ++ kwSep).flatten

theorem toList_arr (xs : List Int) : (arr xs).toList = arrL xs := by
  simp [arr, arrL, toList_cat, toList_dec, kwSep, Function.comp_def]

@[simp] theorem arrL_nil : arrL [] = [] := rfl
theorem arrL_cons (v : Int) (xs : List Int) : arrL (v :: xs) = decL v ++ (kwSep ++ arrL xs) := by
  simp [arrL]

theorem length_decL_pos (v : Int) : 0 < (decL v).length := by
  obtain ⟨c, t, h, _⟩ := decL_head v
  simp [h]

theorem readArrF_dec (f : Nat) (v : Int) (x : List Char) :
    readArrF (f + 1) (decL v ++ x) = (readIntL (decL v ++ x)).bind fun p =>
      (strip kwSep p.2).bind fun r1 => (readArrF f r1).bind fun q => some (p.1 :: q.1, q.2) := by
  obtain ⟨c, t, hct, hc⟩ := decL_head v
  simp [hct, readArrF, hc]

theorem readArrF_arr (xs : List Int) (rest : List Char) (hr : NoHead startsInt rest) :
    ∀ fuel, (arrL xs ++ rest).length < fuel → readArrF fuel (arrL xs ++ rest) = some (xs, rest) := by
  induction xs with
  | nil =>
    rintro (_ | f) hf
    · cases hf
    · cases rest with
      | nil => rfl
      | cons c r => simp [readArrF, (NoHead_cons ..).1 hr]
  | cons v xs ih =>
    rintro (_ | f) hf
    · cases hf
    · rw [arrL_cons, List.append_assoc, List.append_assoc] at hf ⊢
      have hl : (arrL xs ++ rest).length < f := by
        have := length_decL_pos v; simp only [List.length_append] at hf ⊢; omega
      simp only [readArrF_dec, readIntL_dec _ _ (noHead_kw (kw := kwSep) String.toList_ofList (by decide) _),
        Option.bind_some, strip_append, ih f hl]

theorem readArrL_arr (xs : List Int) (rest : List Char) (hr : NoHead startsInt rest) :
    readArrL (arrL xs ++ rest) = some (xs, rest) :=
  readArrF_arr xs rest hr _ (Nat.lt_succ_self _)

def rowL (op cl : List Char) (i : Nat) (r : List Int) : List Char :=
  kwRowOpen ++ (digits i ++ (kwRowMid ++ (op ++ (arrL r ++ (cl ++ kwRowEnd)))))

def rowsL (op cl : List Char) : Nat → List (List Int) → List Char
  | _, [] => []
  | k, r :: rs => rowL op cl k r ++ rowsL op cl (k + 1) rs

theorem toList_rows_aux (op cl : String) (rows : List (List Int)) (k : Nat) :
    (((rows.zipIdx k).map fun (r, i) => "/* " ++ dec i ++ " */ " ++ op ++ arr r ++ cl ++ ",\n").map
      String.toList).flatten = rowsL op.toList cl.toList k rows := by
  induction rows generalizing k with
  | nil => simp [rowsL]
  | cons r rs ih =>
    simp only [List.zipIdx_cons, List.map_cons, List.flatten_cons, ih, rowsL, rowL,
      String.toList_append, toList_dec_nat, toList_arr, List.append_assoc]
    rfl

/-- for `op`, `cl` given as literals `"{"`, `"}"` -/
theorem toList_rowsTxt (op cl : Char) (rows : List (List Int)) :
    (rowsTxt (String.ofList [op]) (String.ofList [cl]) rows).toList = rowsL [op] [cl] 0 rows := by
  rw [rowsTxt, toList_cat, toList_rows_aux, String.toList_ofList, String.toList_ofList]

theorem readRowsF_rows (op cl : Char) (hcl : startsInt cl = false) (rows : List (List Int))
    (rest : List Char) (hrest : strip kwRowOpen rest = none) :
    ∀ k fuel, (rowsL [op] [cl] k rows ++ rest).length < fuel →
      readRowsF op cl fuel k (rowsL [op] [cl] k rows ++ rest) = some (rows, rest) := by
  induction rows with
  | nil =>
    rintro k (_ | f) hf
    · cases hf
    · simp [rowsL, readRowsF, hrest]
  | cons r rs ih =>
    rintro k (_ | f) hf
    · cases hf
    · simp only [rowsL, rowL, List.append_assoc, List.cons_append, List.nil_append] at hf ⊢
      have hl : (rowsL [op] [cl] (k + 1) rs ++ rest).length < f := by
        simp only [List.length_append, List.length_cons] at hf ⊢; omega
      simp only [readRowsF, strip_append, strip_cons_self, Option.bind_some, if_true,
        readNatL_digits _ _ (noHead_kw (kw := kwRowMid) String.toList_ofList (by decide) _),
        readArrL_arr _ _ ((NoHead_cons ..).2 hcl), ih (k + 1) f hl]

theorem readRowsL_rows (op cl : Char) (hcl : startsInt cl = false) (rows : List (List Int))
    (rest : List Char) (hrest : strip kwRowOpen rest = none) :
    readRowsL op cl (rowsL [op] [cl] 0 rows ++ rest) = some (rows, rest) :=
  readRowsF_rows op cl hcl rows rest hrest 0 _ (Nat.lt_succ_self _)

def headerL (names : List String) : List Char :=
  '/' :: '*' :: ("     ".toList ++ ((names.map fun n => n.toList ++ ['\t']).flatten ++ ['*', '/', '\n']))

theorem toList_header (d : Data) : (header d).toList = headerL (d.syms.map (·.name)) := by
  simp [header, headerL, toList_cat, Function.comp_def]

theorem skipCmt_cons_ne (c : Char) (s : List Char) (h : c ≠ '*') : skipCmt (c :: s) = skipCmt s := by
  rw [skipCmt.eq_def]; simp [h]
theorem skipCmt_star_slash (s : List Char) : skipCmt ('*' :: '/' :: s) = some s := by
  rw [skipCmt.eq_def]; simp
theorem skipCmt_star_ne (c : Char) (s : List Char) (h : c ≠ '/') :
    skipCmt ('*' :: c :: s) = skipCmt (c :: s) := by
  rw [skipCmt.eq_def]; simp [h]

/-- a name without `*/`, with the tab that follows it in the header comment, is skipped: the tab keeps a
    trailing `*` of the name from pairing with the next character (a `/` there would close the comment) -/
theorem skipCmt_skip (a t : List Char) (h : hasCmtEnd a = false) :
    skipCmt (a ++ '\t' :: t) = skipCmt t := by
  fun_induction hasCmtEnd a with
  | case1 => exact skipCmt_cons_ne _ _ (by decide)
  | case2 =>
    simp only [List.cons_append, List.nil_append]
    rw [skipCmt_star_ne _ _ (by decide), skipCmt_cons_ne _ _ (by decide)]
  | case3 => simp at h
  | case4 c' s' hc' ih =>
    have := ih h
    simp only [List.cons_append] at this ⊢
    rw [skipCmt_star_ne _ _ hc', this]
  | case5 c s hc ih =>
    have := ih h
    simp only [List.cons_append]
    rw [skipCmt_cons_ne _ _ hc, this]

theorem skipCmt_names (names : List String) (rest : List Char)
    (h : ∀ n ∈ names, hasCmtEnd n.toList = false) :
    skipCmt ((names.map fun n => n.toList ++ ['\t']).flatten ++ '*' :: '/' :: rest) = some rest := by
  induction names with
  | nil => exact skipCmt_star_slash rest
  | cons n ns ih =>
    simp only [List.map_cons, List.flatten_cons, List.append_assoc, List.cons_append, List.nil_append]
    rw [skipCmt_skip _ _ (h n List.mem_cons_self)]
    exact ih (fun m hm => h m (List.mem_cons_of_mem _ hm))

theorem skipCmt_header (names : List String) (rest : List Char)
    (h : ∀ n ∈ names, hasCmtEnd n.toList = false) :
    ∃ r0, strip ['/', '*'] (headerL names ++ rest) = some r0 ∧ skipCmt r0 = some ('\n' :: rest) := by
  refine ⟨"     ".toList ++ ((names.map fun n => n.toList ++ ['\t']).flatten ++ '*' :: '/' :: '\n' :: rest), ?_, ?_⟩
  · simp [headerL, strip]
  · have := skipCmt_names names ('\n' :: rest) h
    show skipCmt (' ' :: ' ' :: ' ' :: ' ' :: ' ' :: _) = _
    simp only [skipCmt_cons_ne _ _ (show ' ' ≠ '*' by decide)]
    exact this

def caseL (term : List Char) (v i : Int) : List Char :=
  kwCase ++ (decL v ++ (kwConv ++ (decL i ++ term)))

def casesL (term : List Char) (ps : List (Int × Int)) : List Char :=
  (ps.map fun p => caseL term p.1 p.2).flatten

theorem readCasesF_cases (term : List Char) (hterm : ∀ x, NoHead Char.isDigit (term ++ x))
    (ps : List (Int × Int)) (rest : List Char) (hrest : strip kwCase rest = none) :
    ∀ fuel, (casesL term ps ++ rest).length < fuel →
      readCasesF term fuel (casesL term ps ++ rest) = some (ps, rest) := by
  induction ps with
  | nil =>
    rintro (_ | f) hf
    · cases hf
    · simp [casesL, readCasesF, hrest]
  | cons p ps ih =>
    rintro (_ | f) hf
    · cases hf
    · have e : casesL term (p :: ps) ++ rest = kwCase ++ (decL p.1 ++ (kwConv ++ (decL p.2 ++ (term ++
          (casesL term ps ++ rest))))) := by
        simp [casesL, caseL]
      rw [e] at hf ⊢
      have hl : (casesL term ps ++ rest).length < f := by
        have := length_decL_pos p.1; simp only [List.length_append] at hf ⊢; omega
      simp only [readCasesF, strip_append, Option.bind_some, readIntL_dec _ _ (hterm _), ih f hl,
        readIntL_dec _ _ (noHead_kw (kw := kwConv) String.toList_ofList (by decide) _)]

/-- a name the constant block can carry: non-empty, without blank, `=` and newline -/
def GoodName (n : String) : Prop := n.toList ≠ [] ∧ ∀ c ∈ n.toList, c ≠ ' ' ∧ c ≠ '=' ∧ c ≠ '\n'

/-- for a literal name: `GoodName.ofList _ (by decide)` -/
theorem GoodName.ofList (l : List Char) (h : l ≠ [] ∧ ∀ c ∈ l, c ≠ ' ' ∧ c ≠ '=' ∧ c ≠ '\n') :
    GoodName (String.ofList l) := by
  rwa [GoodName, String.toList_ofList]

theorem GoodName.nameChar {n : String} (h : GoodName n) : ∀ c ∈ n.toList, nameChar c = true := by
  intro c hc
  have := h.2 c hc
  simp [Emit.nameChar, this]

theorem GoodName.isEmpty {n : String} (h : GoodName n) : n.toList.isEmpty = false := by
  simpa using h.1

theorem takeWhile_name {n : String} (h : GoodName n) (x : List Char) (hx : NoHead nameChar x) :
    (n.toList ++ x).takeWhile nameChar = n.toList ∧ (n.toList ++ x).dropWhile nameChar = x :=
  ⟨takeWhile_append_noHead h.nameChar hx, dropWhile_append_noHead h.nameChar hx⟩

def clineL (name : String) (v : Int) (pad : List Char) : List Char :=
  kwConst ++ (name.toList ++ (kwEq ++ (decL v ++ (pad ++ ['\n']))))

def clinesL (ts : List (String × Int × List Char)) : List Char :=
  (ts.map fun t => clineL t.1 t.2.1 t.2.2).flatten

theorem readConstsF_const (fuel : Nat) (x : List Char) :
    readConstsF (fuel + 1) (kwConst ++ x) =
      if (x.takeWhile nameChar).isEmpty then none else
      (strip kwEq (x.dropWhile nameChar)).bind fun r1 =>
      (readIntL r1).bind fun v =>
      (strip ['\n'] (v.2.dropWhile (· == ' '))).bind fun r2 =>
      (readConstsF fuel r2).bind fun q => some ((String.ofList (x.takeWhile nameChar), v.1) :: q) := by
  obtain ⟨t, e⟩ : ∃ t, kwConst = 'c' :: t := ⟨_, String.toList_ofList⟩
  have e2 := strip_append kwConst x
  rw [show kwConst ++ x = 'c' :: (t ++ x) by rw [e]; rfl] at e2 ⊢
  rw [readConstsF]
  simp [strip, e2]

/-- a `//` line costs one round -/
theorem readConstsF_comment (f : Nat) (t x : List Char) (ht : ∀ c ∈ t, (c != '\n') = true) :
    readConstsF (f + 1) ('/' :: '/' :: (t ++ '\n' :: x)) = readConstsF f x := by
  rw [readConstsF]
  simp only [strip, if_true]
  rw [dropWhile_append_noHead ht (by simp)]
  rfl

theorem blank_pad {pad : List Char} (hpad : ∀ c ∈ pad, c = ' ') (x : List Char) :
    NoHead Char.isDigit (pad ++ '\n' :: x) ∧ (pad ++ '\n' :: x).dropWhile (· == ' ') = '\n' :: x := by
  constructor
  · cases pad with
    | nil => exact (by decide : Char.isDigit '\n' = false)
    | cons c l => rw [hpad c List.mem_cons_self]; exact (by decide : Char.isDigit ' ' = false)
  · exact dropWhile_append_noHead (fun c hc => by simp [hpad c hc]) (by decide : ('\n' == ' ') = false)

theorem readConstsF_lines (ts : List (String × Int × List Char))
    (hn : ∀ t ∈ ts, GoodName t.1) (hp : ∀ t ∈ ts, ∀ c ∈ t.2.2, c = ' ') :
    ∀ fuel, (clinesL ts).length < fuel → readConstsF fuel (clinesL ts) = some (ts.map fun t => (t.1, t.2.1)) := by
  induction ts with
  | nil =>
    rintro (_ | f) hf
    · cases hf
    · simp [clinesL, readConstsF]
  | cons t ts ih =>
    rintro (_ | f) hf
    · cases hf
    · have e : clinesL (t :: ts) = kwConst ++ (t.1.toList ++ (kwEq ++ (decL t.2.1 ++ (t.2.2 ++
          '\n' :: clinesL ts)))) := by
        simp [clinesL, clineL]
      rw [e] at hf ⊢
      obtain ⟨h1, h2⟩ := takeWhile_name (hn t List.mem_cons_self) _
        (noHead_kw (kw := kwEq) String.toList_ofList (by decide) (decL t.2.1 ++ (t.2.2 ++ '\n' :: clinesL ts)))
      obtain ⟨h4, h5⟩ := blank_pad (hp t List.mem_cons_self) (clinesL ts)
      have hl : (clinesL ts).length < f := by
        simp only [List.length_append, List.length_cons] at hf; omega
      simp only [readConstsF_const, h1, h2, (hn t List.mem_cons_self).isEmpty, Bool.false_eq_true, if_false,
        strip_append, Option.bind_some, readIntL_dec _ _ h4, h5, strip_cons_self, List.map_cons, String.ofList_toList,
        ih (fun t ht => hn t (List.mem_cons_of_mem _ ht)) (fun t ht => hp t (List.mem_cons_of_mem _ ht)) f hl]

def blockL (name : String) (pad : List Char) (xs : List Int) : List Char :=
  '\n' :: (kwVar ++ (name.toList ++ (kwIntArr ++ ('\n' :: '\t' :: (arrL xs ++ (pad ++ ['\n', '}']))))))

def blocksL (bs : List (String × List Char × List Int)) : List Char :=
  (bs.map fun b => blockL b.1 b.2.1 b.2.2).flatten

theorem isWs_not_startsInt {c : Char} (h : isWs c = true) : startsInt c = false := by
  simp only [isWs, Bool.or_eq_true, beq_iff_eq] at h
  rcases h with (h | h) | h <;> rw [h] <;> decide

theorem readDeclsF_step (fuel : Nat) (s t : List Char) (h : s.dropWhile isWs = kwVar ++ t) :
    readDeclsF (fuel + 1) s =
      if (t.takeWhile nameChar).isEmpty then none else
      (strip kwIntArr (t.dropWhile nameChar)).bind fun r1 =>
      (readArrL (r1.dropWhile isWs)).bind fun a =>
      (strip ['}'] (a.2.dropWhile isWs)).bind fun r2 =>
      (readDeclsF fuel r2).bind fun q => some ((String.ofList (t.takeWhile nameChar), a.1) :: q) := by
  obtain ⟨u, e⟩ : ∃ u, kwVar = 'v' :: u := ⟨_, String.toList_ofList⟩
  have e2 := strip_append kwVar t
  rw [show kwVar ++ t = 'v' :: (u ++ t) by rw [e]; rfl] at h e2
  rw [readDeclsF, h]
  simp only [e2, Option.bind_some]

theorem readDeclsF_end (fuel : Nat) (s : List Char) (h : ∀ c ∈ s, isWs c = true) :
    readDeclsF (fuel + 1) s = some [] := by
  rw [readDeclsF, ← List.append_nil s, List.dropWhile_append_of_pos h]
  rfl

theorem declBody (xs : List Int) (pad rest : List Char) (hpad : ∀ c ∈ pad, isWs c = true) :
    ∃ a, readArrL (('\n' :: '\t' :: (arrL xs ++ (pad ++ '\n' :: '}' :: rest))).dropWhile isWs) = some a ∧
      a.1 = xs ∧ a.2.dropWhile isWs = '}' :: rest := by
  have hws : (pad ++ '\n' :: '}' :: rest).dropWhile isWs = '}' :: rest := by
    rw [List.dropWhile_append_of_pos hpad, List.dropWhile_cons_of_pos (by decide),
      List.dropWhile_cons_of_neg (by decide)]
  have hni : NoHead startsInt (pad ++ '\n' :: '}' :: rest) := by
    cases pad with
    | nil => exact (by decide : startsInt '\n' = false)
    | cons c l => exact isWs_not_startsInt (hpad c List.mem_cons_self)
  rw [List.dropWhile_cons_of_pos (by decide), List.dropWhile_cons_of_pos (by decide)]
  cases xs with
  | nil =>
    rw [arrL_nil, List.nil_append, hws]
    exact ⟨_, readArrL_arr [] _ (by decide : startsInt '}' = false), rfl,
      List.dropWhile_cons_of_neg (by decide)⟩
  | cons v xs =>
    obtain ⟨c, t, hct, hc⟩ := decL_head v
    have hnw : NoHead isWs (arrL (v :: xs) ++ (pad ++ '\n' :: '}' :: rest)) := by
      rw [arrL_cons, hct]
      exact Bool.eq_false_iff.2 fun hw => by rw [isWs_not_startsInt hw] at hc; cases hc
    rw [dropWhile_noHead hnw]
    exact ⟨_, readArrL_arr _ _ hni, rfl, hws⟩

theorem readDeclsF_blocks (bs : List (String × List Char × List Int)) (tail : List Char)
    (hn : ∀ b ∈ bs, GoodName b.1) (hp : ∀ b ∈ bs, ∀ c ∈ b.2.1, isWs c = true)
    (ht : ∀ c ∈ tail, isWs c = true) :
    ∀ fuel, (blocksL bs ++ tail).length < fuel →
      readDeclsF fuel (blocksL bs ++ tail) = some (bs.map fun b => (b.1, b.2.2)) := by
  induction bs with
  | nil =>
    rintro (_ | f) hf
    · cases hf
    · exact readDeclsF_end f tail ht
  | cons b bs ih =>
    rintro (_ | f) hf
    · cases hf
    · have e : blocksL (b :: bs) ++ tail = '\n' :: (kwVar ++ (b.1.toList ++ (kwIntArr ++ ('\n' :: '\t' ::
          (arrL b.2.2 ++ (b.2.1 ++ '\n' :: '}' :: (blocksL bs ++ tail))))))) := by
        simp [blocksL, blockL]
      rw [e] at hf ⊢
      obtain ⟨h1, h2⟩ := takeWhile_name (hn b List.mem_cons_self) _ (noHead_kw (kw := kwIntArr)
        String.toList_ofList (by decide)
        ('\n' :: '\t' :: (arrL b.2.2 ++ (b.2.1 ++ '\n' :: '}' :: (blocksL bs ++ tail)))))
      obtain ⟨a, ha, ha1, ha2⟩ := declBody b.2.2 b.2.1 (blocksL bs ++ tail) (hp b List.mem_cons_self)
      have hl : (blocksL bs ++ tail).length < f := by
        simp only [List.length_append, List.length_cons] at hf ⊢; omega
      rw [readDeclsF_step f _ _ ((List.dropWhile_cons_of_pos (by decide)).trans
        (dropWhile_noHead (noHead_kw (kw := kwVar) String.toList_ofList (by decide) _)))]
      simp only [h1, h2, (hn b List.mem_cons_self).isEmpty, Bool.false_eq_true, if_false, strip_append,
        Option.bind_some, ha, ha1, ha2, strip_cons_self, List.map_cons, String.ofList_toList,
        ih (fun t ht => hn t (List.mem_cons_of_mem _ ht)) (fun t ht => hp t (List.mem_cons_of_mem _ ht)) f hl]

end Emit
