import Yv.Proofs.ListFacts
/-! The core of the row-displacement argument behind `PackTable` / `UnPackTable` of
    /repo/Utils/packtable.go, on placements instead of arrays.
    A *placement* assigns each placed row a displacement (Go: `row[i]`); a slot is owned by the row
    whose non-zero column lands there.  Go keeps the owned slots in the bitmap `entry[]` and finds the
    displacement of the next row by the `checkoverlap` loop: start at 0, move one to the right while
    some non-zero column of the row hits a set bit.  Here `occupied` is that bitmap read off the
    placement, `fits` the test of the loop, `firstFit` the loop (with fuel), and `Inv` what the loop
    keeps: every row placed once, no slot owned twice. -/
namespace PackP

abbrev Row := List Int

/-- columns with a non-zero entry -/
def nz (r : Row) : List Nat := (List.range r.length).filter (fun j => r.getD j 0 != 0)

theorem mem_nz {r : Row} {j : Nat} : j ∈ nz r ↔ j < r.length ∧ r.getD j 0 ≠ 0 := by
  simp [nz]

/-- placed rows: (row index, displacement) -/
abbrev Placed := List (Nat × Nat)

/-- the placed row one of whose non-zero columns lands on slot `p` (Go's `check[p]`, with the displacement) -/
def owner (tab : List Row) (pl : Placed) (p : Nat) : Option (Nat × Nat) :=
  pl.find? (fun (i, d) => (nz (tab.getD i [])).any (fun j => d + j == p))

/-- Go's `entry[p]` -/
def occupied (tab : List Row) (pl : Placed) (p : Nat) : Bool := (owner tab pl p).isSome

/-- no non-zero column of row `i`, displaced by `d`, hits a set bit: the `checkoverlap` loop stops at `d` -/
def fits (tab : List Row) (pl : Placed) (i d : Nat) : Bool :=
  (nz (tab.getD i [])).all (fun j => !occupied tab pl (d + j))

/-- the `checkoverlap` loop from displacement `d`: the first displacement that fits, within `fuel` tries -/
def firstFit (tab : List Row) (pl : Placed) (i : Nat) : Nat → Nat → Nat
  | 0, d => d
  | fuel+1, d => if fits tab pl i d then d else firstFit tab pl i fuel (d+1)

/-- an upper bound beyond which nothing is occupied -/
def bound (tab : List Row) (pl : Placed) : Nat :=
  pl.foldl (fun b (x : Nat × Nat) => max b (x.2 + (tab.getD x.1 []).length)) 0

theorem occupied_lt_bound (tab : List Row) (pl : Placed) (p : Nat)
    (h : occupied tab pl p = true) : p < bound tab pl := by
  unfold occupied owner at h
  rw [Option.isSome_iff_exists] at h
  obtain ⟨⟨i, d⟩, hf⟩ := h
  have hm := List.mem_of_find?_eq_some hf
  have hp := List.find?_some hf
  simp only [List.any_eq_true, beq_iff_eq] at hp
  obtain ⟨j, hj, rfl⟩ := hp
  have hjl := (mem_nz.mp hj).1
  have := Y.mem_le_foldl_max (pl.map fun x => x.2 + (tab.getD x.1 []).length) 0
    (d + (tab.getD i []).length) (List.mem_map.mpr ⟨(i, d), hm, rfl⟩)
  rw [List.foldl_map] at this
  unfold bound
  omega

theorem fits_at_bound (tab : List Row) (pl : Placed) (i : Nat) (d : Nat) (hd : bound tab pl ≤ d) :
    fits tab pl i d = true := by
  unfold fits
  simp only [List.all_eq_true, Bool.not_eq_true']
  intro j _
  cases h : occupied tab pl (d + j) with
  | false => rfl
  | true => have := occupied_lt_bound tab pl _ h; omega

theorem firstFit_fits (tab : List Row) (pl : Placed) (i : Nat) :
    ∀ fuel d, bound tab pl ≤ d + fuel → fits tab pl i (firstFit tab pl i fuel d) = true := by
  intro fuel
  induction fuel with
  | zero => intro d h; simpa [firstFit] using fits_at_bound tab pl i d (by omega)
  | succ n ih =>
    intro d h
    unfold firstFit
    split
    · assumption
    · exact ih (d+1) (by omega)

/-- what the placement loop of `PackTable` keeps: every row is placed at most once, and two
    non-zero cells that land on one slot belong to one row (the bitmap test guarantees it) -/
structure Inv (tab : List Row) (pl : Placed) : Prop where
  nodup : (pl.map Prod.fst).Nodup
  disj  : ∀ i d i' d' j j', (i, d) ∈ pl → (i', d') ∈ pl →
            j ∈ nz (tab.getD i []) → j' ∈ nz (tab.getD i' []) → d + j = d' + j' → i = i'

theorem disp_unique {tab : List Row} {pl : Placed} (h : Inv tab pl) {i d d' : Nat}
    (h1 : (i, d) ∈ pl) (h2 : (i, d') ∈ pl) : d = d' :=
  (Prod.mk.inj (Y.eq_of_key_eq Prod.fst h.nodup h1 h2 rfl)).2

/-- what the packed arrays store at slot p -/
def slotVal (tab : List Row) (pl : Placed) (p : Nat) : Int :=
  match owner tab pl p with
  | some (i, d) => (tab.getD i []).getD (p - d) 0
  | none => 0
def slotOwner (tab : List Row) (pl : Placed) (p : Nat) : Option Nat := (owner tab pl p).map Prod.fst

/-- the cell rule of `UnPackTable` on the untrimmed slots: if the check vector names row `i` at
    slot `d + j` the value stored there, else 0 -/
def lookup (tab : List Row) (pl : Placed) (i d j : Nat) : Int :=
  if slotOwner tab pl (d + j) = some i then slotVal tab pl (d + j) else 0

theorem owner_spec {tab : List Row} {pl : Placed} {p i d : Nat} (h : owner tab pl p = some (i, d)) :
    (i, d) ∈ pl ∧ ∃ j ∈ nz (tab.getD i []), d + j = p :=
  ⟨List.mem_of_find?_eq_some h, by simpa [owner] using List.find?_some h⟩

theorem owner_isSome_of {tab : List Row} {pl : Placed} {p i d j : Nat} (hm : (i, d) ∈ pl)
    (hj : j ∈ nz (tab.getD i [])) (hp : d + j = p) : ∃ x, owner tab pl p = some x := by
  unfold owner
  rw [← Option.isSome_iff_exists, List.find?_isSome]
  exact ⟨(i, d), hm, by simp; exact ⟨j, hj, hp⟩⟩

/-- under the invariant the slot of a non-zero cell of a placed row is owned by that row -/
theorem owner_eq {tab : List Row} {pl : Placed} (h : Inv tab pl) {i d j : Nat} (hm : (i, d) ∈ pl)
    (hj : j ∈ nz (tab.getD i [])) : owner tab pl (d + j) = some (i, d) := by
  obtain ⟨⟨i0, d0⟩, hown⟩ := owner_isSome_of hm hj rfl
  obtain ⟨hm0, j0, hj0, hp0⟩ := owner_spec hown
  cases h.disj i0 d0 i d j0 j hm0 hm hj0 hj hp0
  cases disp_unique h hm0 hm
  exact hown

/-- C05 core: every cell of every placed row is recovered exactly -/
theorem lookup_correct (tab : List Row) (pl : Placed) (h : Inv tab pl) (i d j : Nat)
    (hm : (i, d) ∈ pl) (hj : j < (tab.getD i []).length) :
    lookup tab pl i d j = (tab.getD i []).getD j 0 := by
  unfold lookup slotOwner slotVal
  by_cases hjn : j ∈ nz (tab.getD i [])
  · simp [owner_eq h hm hjn]
  · -- a zero cell: were its slot owned by row `i`, it would be through column `j`
    have hz : (tab.getD i []).getD j 0 = 0 := Classical.not_not.1 fun hz => hjn (mem_nz.2 ⟨hj, hz⟩)
    rw [hz]
    split
    · rename_i ho
      obtain ⟨⟨i0, d0⟩, hown, rfl⟩ := Option.map_eq_some_iff.1 ho
      obtain ⟨hm0, j0, hj0, hp0⟩ := owner_spec hown
      cases disp_unique h hm0 hm
      exact absurd (Nat.add_left_cancel hp0 ▸ hj0) hjn
    · rfl

theorem inv_place (tab : List Row) (pl : Placed) (h : Inv tab pl) (i d : Nat)
    (hnew : i ∉ pl.map Prod.fst) (hfit : fits tab pl i d = true) : Inv tab (pl ++ [(i, d)]) := by
  have hfree : ∀ j ∈ nz (tab.getD i []), ∀ i' d' j', (i', d') ∈ pl → j' ∈ nz (tab.getD i' []) →
      d + j ≠ d' + j' := by
    intro j hj i' d' j' hm' hj' heq
    unfold fits at hfit
    have := (List.all_eq_true.mp hfit) j hj
    obtain ⟨x, hx⟩ := owner_isSome_of hm' hj' heq.symm
    simp [occupied, hx] at this
  constructor
  · rw [List.map_append, List.nodup_append]
    refine ⟨h.nodup, by simp, ?_⟩
    intro a ha b hb
    simp at hb; subst hb
    intro e; subst e; exact hnew ha
  · intro a da b db j j' ha hb hj hj' heq
    rcases List.mem_append.mp ha with ha1 | ha1 <;> rcases List.mem_append.mp hb with hb1 | hb1
    · exact h.disj a da b db j j' ha1 hb1 hj hj' heq
    · simp at hb1; obtain ⟨rfl, rfl⟩ := hb1
      exact absurd heq.symm (hfree j' hj' a da j ha1 hj)
    · simp at ha1; obtain ⟨rfl, rfl⟩ := ha1
      exact absurd heq (hfree j hj b db j' hb1 hj')
    · simp at ha1 hb1; obtain ⟨rfl, rfl⟩ := ha1; obtain ⟨rfl, rfl⟩ := hb1; rfl

end PackP
