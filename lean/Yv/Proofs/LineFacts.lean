import Yv.Model.Listing
import Yv.Proofs.ListFacts
/-! What a rendered line determines (C18): the lemmas shared by the DOT view (Props/C18) and the debug
    listing (Props/C18b, C18c).

    A line is a concatenation of symbol names, decimal numerals and literals.  It is read back on its
    characters, always by the same step: a piece free of some separator characters ends at the first
    separator (`split_sep`).  `digits_split` is that step for a numeral, `word_split` / `name_split` for a
    name (with a literal glued to it), `symsStr_split` / `laStr_split` for a list of names between
    blanks.  The views list one entry per state and one rendered line per item of an entry:
    `map_range_inj`, `map_inj_on`, `mem_map_inj_on`, `ext_getD` (Proofs/ListFacts) carry the injectivity
    of a line over to the view. -/
namespace Y.Props
open Y

theorem rule_index_inj (G : Grammar) (hnd : G.rules.Nodup) {r r' : Nat}
    (hr : r < G.rules.length) (hr' : r' < G.rules.length)
    (h1 : G.lhsOf r = G.lhsOf r') (h2 : G.rhsOf r = G.rhsOf r') : r = r' := by
  apply (List.getElem?_inj hr hnd).1
  unfold Grammar.lhsOf at h1
  unfold Grammar.rhsOf at h2
  rw [List.getElem?_eq_getElem hr, List.getElem?_eq_getElem hr'] at h1 h2 ⊢
  cases hx : G.rules[r]; cases hy : G.rules[r']
  rw [hx, hy] at h1 h2
  simp only at h1 h2
  rw [h1, h2]

theorem item_eq_of_content (G : Grammar) (hnd : G.rules.Nodup) {it it' : Item}
    (hr : it.r < G.rules.length) (hr' : it'.r < G.rules.length)
    (h : G.lhsOf it.r = G.lhsOf it'.r ∧ G.rhsOf it.r = G.rhsOf it'.r ∧ it.d = it'.d) : it = it' := by
  cases it; cases it'
  exact congr (congrArg Item.mk (rule_index_inj G hnd hr hr' h.1 h.2.1)) h.2.2

/-- splitting at the first separator character: if `a`, `b` contain no separator and `t`, `t'` are
    empty or start with one, then `a ++ t = b ++ t'` splits uniquely -/
theorem split_sep (P : Char → Prop) (a b t t' : List Char)
    (ha : ∀ c ∈ a, ¬ P c) (hb : ∀ c ∈ b, ¬ P c) (ht : ∀ c ∈ t.head?, P c) (ht' : ∀ c ∈ t'.head?, P c)
    (h : a ++ t = b ++ t') : a = b ∧ t = t' := by
  induction a generalizing b with
  | nil =>
    cases b with
    | nil => exact ⟨rfl, h⟩
    | cons c b => subst h; exact absurd (ht c (by simp)) (hb c (by simp))
  | cons c a ih =>
    cases b with
    | nil => subst h; exact absurd (ht' c (by simp)) (ha c (by simp))
    | cons c' b =>
      simp only [List.cons_append, List.cons.injEq] at h
      obtain ⟨h1, h2⟩ := ih b (fun x hx => ha x (by simp [hx])) (fun x hx => hb x (by simp [hx])) h.2
      exact ⟨by rw [h.1, h1], h2⟩

theorem head?_append_of {Q : Char → Prop} {l t : List Char} (hl : ∀ c ∈ l.head?, Q c)
    (ht : ∀ c ∈ t.head?, Q c) : ∀ c ∈ (l ++ t).head?, Q c := by
  cases l with
  | nil => exact ht
  | cons c l => exact hl

/-- a word — a name followed by a literal, both free of the separators `P` — ends at the first
    separator -/
theorem word_split (names : Nat → String) (P : Char → Prop)
    (hP : ∀ x, ∀ c ∈ (names x).toList, ¬ P c) (lit lit' : List Char) (hl : ∀ c ∈ lit, ¬ P c)
    (hl' : ∀ c ∈ lit', ¬ P c) (x y : Sym) (t t' : List Char) (ht : ∀ c ∈ t.head?, P c)
    (ht' : ∀ c ∈ t'.head?, P c)
    (h : (names x).toList ++ (lit ++ t) = (names y).toList ++ (lit' ++ t')) :
    (names x).toList ++ lit = (names y).toList ++ lit' ∧ t = t' := by
  rw [← List.append_assoc, ← List.append_assoc] at h
  exact split_sep P _ _ _ _ (fun c hc => (List.mem_append.1 hc).elim (hP x c) (hl c))
    (fun c hc => (List.mem_append.1 hc).elim (hP y c) (hl' c)) ht ht' h

theorem name_split (names : Nat → String) (hinj : ∀ a b, names a = names b → a = b) (P : Char → Prop)
    (hP : ∀ x, ∀ c ∈ (names x).toList, ¬ P c) (lit : List Char) (hl : ∀ c ∈ lit, ¬ P c)
    (x y : Sym) (t t' : List Char) (ht : ∀ c ∈ t.head?, P c) (ht' : ∀ c ∈ t'.head?, P c)
    (h : (names x).toList ++ (lit ++ t) = (names y).toList ++ (lit ++ t')) : x = y ∧ t = t' := by
  obtain ⟨h1, h2⟩ := word_split names P hP lit lit hl hl x y t t' ht ht' h
  exact ⟨hinj _ _ (String.toList_inj.1 (List.append_cancel_right h1)), h2⟩

theorem toDigits_inj (r r' : Nat) (h : Nat.toDigits 10 r = Nat.toDigits 10 r') : r = r' := by
  rw [← @Nat.ofDigitChars_ten_toDigits r, ← @Nat.ofDigitChars_ten_toDigits r', h]

theorem toString_nat_toList (n : Nat) : (toString n).toList = Nat.toDigits 10 n := by
  rw [Nat.toString_eq_repr, Nat.toList_repr]

theorem digits_isDigit (n : Nat) : ∀ c ∈ Nat.toDigits 10 n, ¬ c.isDigit = false := fun c hc => by
  rw [Nat.isDigit_of_mem_toDigits (by decide) (by decide) hc]; decide

theorem digits_split (n n' : Nat) (t t' : List Char)
    (ht : ∀ c ∈ t.head?, c.isDigit = false) (ht' : ∀ c ∈ t'.head?, c.isDigit = false)
    (h : Nat.toDigits 10 n ++ t = Nat.toDigits 10 n' ++ t') : n = n' ∧ t = t' := by
  obtain ⟨h1, h2⟩ := split_sep (·.isDigit = false) _ _ _ _ (digits_isDigit n) (digits_isDigit n') ht ht' h
  exact ⟨toDigits_inj _ _ h1, h2⟩

theorem digits_split_right (n n' : Nat) (t t' : List Char)
    (ht : ∀ c ∈ t.getLast?, c.isDigit = false) (ht' : ∀ c ∈ t'.getLast?, c.isDigit = false)
    (h : t ++ Nat.toDigits 10 n = t' ++ Nat.toDigits 10 n') : t = t' ∧ n = n' := by
  have h := congrArg List.reverse h
  rw [List.reverse_append, List.reverse_append] at h
  obtain ⟨h1, h2⟩ := split_sep (·.isDigit = false) _ _ _ _
    (fun c hc => digits_isDigit n c (List.mem_reverse.1 hc))
    (fun c hc => digits_isDigit n' c (List.mem_reverse.1 hc))
    (by rwa [List.head?_reverse]) (by rwa [List.head?_reverse]) h
  exact ⟨List.reverse_inj.1 h2, toDigits_inj _ _ (List.reverse_inj.1 h1)⟩

/-! ### names between blanks

The recursive renderers are read on the characters of their results: `(symsStr names xs).toList` is
` name ` per symbol, `(laStr names xs).toList` is ` name` per symbol. -/

theorem symsStr_cons (names : Nat → String) (x : Sym) (xs : List Sym) :
    (symsStr names (x :: xs)).toList =
      ' ' :: ((names x).toList ++ ' ' :: (symsStr names xs).toList) := by
  simp [symsStr]

theorem laStr_cons (names : Nat → String) (x : Sym) (xs : List Sym) :
    (laStr names (x :: xs)).toList = ' ' :: ((names x).toList ++ (laStr names xs).toList) := by
  simp [laStr]

theorem symsStr_head (names : Nat → String) (xs : List Sym) :
    ∀ c ∈ (symsStr names xs).toList.head?, c = ' ' := by
  cases xs with
  | nil => simp [symsStr]
  | cons x xs => simp [symsStr_cons]

theorem laStr_head (names : Nat → String) (xs : List Sym) :
    ∀ c ∈ (laStr names xs).toList.head?, c = ' ' := by
  cases xs with
  | nil => simp [laStr]
  | cons x xs => simp [laStr_cons]

section
variable (names : Nat → String) (hinj : ∀ a b, names a = names b → a = b)
include hinj

/-- the symbols printed by `symsStr` end where the text does not go on with another ` name ` -/
theorem symsStr_split (hnb : ∀ x, ∀ c ∈ (names x).toList, ¬ c = ' ') (xs ys : List Sym)
    (t t' : List Char) (ht : ∀ x u, t ≠ ' ' :: ((names x).toList ++ ' ' :: u))
    (ht' : ∀ x u, t' ≠ ' ' :: ((names x).toList ++ ' ' :: u))
    (h : (symsStr names xs).toList ++ t = (symsStr names ys).toList ++ t') : xs = ys ∧ t = t' := by
  induction xs generalizing ys with
  | nil =>
    cases ys with
    | nil => exact ⟨rfl, h⟩
    | cons y ys =>
      simp only [symsStr_cons, List.cons_append, List.append_assoc] at h
      exact absurd h (ht y _)
  | cons x xs ih =>
    cases ys with
    | nil =>
      simp only [symsStr_cons, List.cons_append, List.append_assoc] at h
      exact absurd h.symm (ht' x _)
    | cons y ys =>
      simp only [symsStr_cons, List.cons_append, List.append_assoc, List.cons.injEq, true_and] at h
      obtain ⟨hxy, h⟩ := name_split names hinj _ hnb [] (by simp) x y _ _ (by simp) (by simp) h
      obtain ⟨hxs, ht⟩ := ih ys (List.cons.inj h).2
      exact ⟨by rw [hxy, hxs], ht⟩

theorem symsStr_inj (hnb : ∀ x, ∀ c ∈ (names x).toList, ¬ c = ' ') (xs ys : List Sym)
    (h : (symsStr names xs).toList = (symsStr names ys).toList) : xs = ys :=
  (symsStr_split names hinj hnb xs ys [] [] (by simp) (by simp) (by rw [h])).1

/-- the symbols printed by `laStr` end where the text goes on with a separator other than the blank
    (or ends) — for names free of the separators `P`, the blank among them -/
theorem laStr_split (P : Char → Prop) (hb : P ' ') (hP : ∀ x, ∀ c ∈ (names x).toList, ¬ P c)
    (xs ys : List Sym) (t t' : List Char) (ht : ∀ c ∈ t.head?, P c ∧ ¬ c = ' ')
    (ht' : ∀ c ∈ t'.head?, P c ∧ ¬ c = ' ')
    (h : (laStr names xs).toList ++ t = (laStr names ys).toList ++ t') : xs = ys ∧ t = t' := by
  have hd : ∀ (zs : List Sym) (u : List Char), (∀ c ∈ u.head?, P c ∧ ¬ c = ' ') →
      ∀ c ∈ ((laStr names zs).toList ++ u).head?, P c := fun zs u hu =>
    head?_append_of (fun c hc => laStr_head names zs c hc ▸ hb) fun c hc => (hu c hc).1
  induction xs generalizing ys with
  | nil =>
    cases ys with
    | nil => exact ⟨rfl, h⟩
    | cons y ys => rw [laStr_cons] at h; exact absurd rfl (ht ' ' (by rw [show t = _ from h]; rfl)).2
  | cons x xs ih =>
    cases ys with
    | nil => rw [laStr_cons] at h; exact absurd rfl (ht' ' ' (by rw [show t' = _ from h.symm]; rfl)).2
    | cons y ys =>
      simp only [laStr_cons, List.cons_append, List.append_assoc, List.cons.injEq, true_and] at h
      obtain ⟨hxy, h⟩ := name_split names hinj P hP [] (by simp) x y _ _ (hd xs t ht) (hd ys t' ht') h
      obtain ⟨hxs, ht⟩ := ih ys h
      exact ⟨by rw [hxy, hxs], ht⟩

theorem laStr_inj (hnb : ∀ x, ∀ c ∈ (names x).toList, ¬ c = ' ') (xs ys : List Sym)
    (h : (laStr names xs).toList = (laStr names ys).toList) : xs = ys :=
  (laStr_split names hinj (· = ' ') rfl hnb xs ys [] [] (by simp) (by simp) (by rw [h])).1

end

end Y.Props
