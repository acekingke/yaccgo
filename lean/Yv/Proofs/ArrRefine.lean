import Yv.Model.ArrDrive
import Yv.Proofs.ArrStack
/-! The array-and-pointer driver `Y.AD.astep` refines the list driver `Y.D.step`. -/
namespace Y.AD
open Y.D

namespace AStack
variable {V : Type}

theorem inv_push (s : AStack V) (e : Entry V) (h : Inv s) : Inv (push s e) := by
  unfold Inv push at *
  split <;> simp <;> omega

theorem inv_pop (s : AStack V) (n : Nat) (h : Inv s) : Inv (pop s n) := by
  unfold Inv pop at *; simp; omega

theorem sp_push (s : AStack V) (e : Entry V) : (push s e).sp = s.sp + 1 := by
  unfold push; split <;> rfl

theorem sp_pop (s : AStack V) (n : Nat) : (pop s n).sp = s.sp - n := rfl

theorem abs_push (s : AStack V) (e : Entry V) (h : Inv s) : abs (push s e) = e :: abs s := by
  unfold abs
  rw [← ArrS.live_push s.a s.sp e h]
  unfold push
  split <;> rfl

theorem abs_pop (s : AStack V) (n : Nat) (h : Inv s) (hn : n ≤ s.sp) :
    abs (pop s n) = (abs s).drop n :=
  ArrS.live_pop s.a s.sp n h hn

theorem length_abs (s : AStack V) (h : Inv s) : (abs s).length = s.sp := by
  unfold Inv at h; unfold abs; simp; omega

/-- the entry `Stack[sp-1]` is the head of the live part -/
theorem abs_top (s : AStack V) (h : Inv s) (h1 : 1 ≤ s.sp) :
    ∃ top, s.top? = some top ∧ abs s = top :: abs (pop s 1) := by
  unfold Inv at h
  have hlt : s.sp - 1 < s.a.length := by omega
  refine ⟨s.a[s.sp - 1], ?_, ?_⟩
  · unfold top?; exact List.getElem?_eq_getElem hlt
  · unfold abs pop
    have e : s.sp = (s.sp - 1) + 1 := by omega
    simp only
    conv => lhs; rw [e, List.take_add_one]
    simp [List.getElem?_eq_getElem hlt]

/-- `Dollar[1..n]` are the `n` topmost live entries, oldest first -/
theorem dollar_vals (s : AStack V) (n : Nat) (h : Inv s) (h1 : 1 ≤ s.sp) (hn : n ≤ s.sp - 1) :
    (s.dollar n).drop 1 = ((abs s).take n).reverse := by
  unfold Inv at h
  unfold dollar abs
  rw [List.take_reverse, List.reverse_reverse, List.drop_take, List.drop_take, List.drop_drop]
  have hl : (List.take s.sp s.a).length = s.sp := by simp; omega
  rw [hl]
  have e1 : s.sp - 1 - n + 1 = s.sp - n := by omega
  have e2 : n + 1 - 1 = n := by omega
  have e3 : s.sp - (s.sp - n) = n := by omega
  rw [e1, e2, e3]

end AStack

open AStack

theorem abs_initGlobal {V : Type} (bv : V) : (initGlobal bv).abs = [bottom bv] := by
  simp [initGlobal, AStack.abs]

theorem inv_initGlobal {V : Type} (bv : V) : (initGlobal bv).Inv := by
  simp [initGlobal, AStack.Inv]

theorem inv_initCtx {V : Type} (s : AStack V) (bv : V) : (initCtx s bv).Inv := by
  simp [initCtx, AStack.Inv]

/-- the loop invariant: pointer within the array and never 0 -/
def Good {V : Type} (c : ACfg V) : Prop := c.stack.Inv ∧ 1 ≤ c.stack.sp

theorem alook_eq {V : Type} (e : V) (c : ACfg V) : alook e c = look e (absCfg c) := rfl

/-- **Simulation, one iteration.**  Under the loop invariant the array driver does exactly what
    the list driver does on the live part of the stack; in particular the `nil` exit is dead. -/
theorem astep_refines {V : Type} (P : Params V) (c : ACfg V) (hG : Good c) :
    absStepR (astep P c) = some (D.step P (absCfg c)) := by
  obtain ⟨hI, h1⟩ := hG
  obtain ⟨top, htop, habs⟩ := abs_top c.stack hI h1
  have hnz : ¬ c.stack.sp = 0 := by omega
  have hle : ¬ c.stack.sp > c.stack.a.length := by unfold AStack.Inv at hI; omega
  have hs : (absCfg c).stack = top :: abs (pop c.stack 1) := habs
  have hlen : (c.stack.pop 1).abs.length = c.stack.sp - 1 := by
    rw [length_abs _ (inv_pop _ _ hI)]; rfl
  unfold astep D.step
  simp only [hnz, hle, if_false, htop, alook_eq]
  rw [hs]
  simp only [← habs, hlen]
  cases hL : P.L top.st (look P.eofVal (absCfg c)).fst with
  | none => rfl
  | some a =>
    simp only
    by_cases he : a = P.errC
    · simp only [if_pos he]; rfl
    simp only [if_neg he]
    by_cases ha : a = P.accC
    · simp only [if_pos ha]; rfl
    simp only [if_neg ha]
    by_cases hp : 0 < a
    · simp only [if_pos hp, absStepR, absCfg, abs_push _ _ hI]
    simp only [if_neg hp]
    cases hR : P.rule (-a).toNat with
    | none => rfl
    | some p =>
      obtain ⟨lhs, n⟩ := p
      simp only
      by_cases hn : n ≤ c.stack.sp - 1
      · simp only [if_pos hn]
        have hI' := inv_pop c.stack n hI
        have h1' : 1 ≤ (c.stack.pop n).sp := by rw [sp_pop]; omega
        obtain ⟨under, hu, hua⟩ := abs_top _ hI' h1'
        rw [← abs_pop _ _ hI (by omega), hua, hu]
        simp only
        cases hg : P.L under.st lhs with
        | none => rfl
        | some g =>
          simp only
          by_cases hg0 : g < 0
          · simp only [if_pos hg0]; rfl
          · simp only [if_neg hg0, absStepR, absCfg, abs_push _ _ hI', hua,
              dollar_vals _ _ hI h1 hn]
      · simp only [if_neg hn]; rfl

/-- every successor configuration is "pop `n` (within the live part, keeping the bottom), then
    push one entry" -/
theorem astep_next_shape {V : Type} (P : Params V) (c c' : ACfg V) (h : astep P c = .next c') :
    ∃ n e, n ≤ c.stack.sp - 1 ∧ c'.stack = (c.stack.pop n).push e := by
  revert h
  fun_cases astep P c <;> intro h <;> cases h
  · exact ⟨0, _, Nat.zero_le _, rfl⟩
  · exact ⟨_, _, ‹_ ≤ _›, rfl⟩

/-- the loop invariant is preserved: the pointer stays within the array and never returns to 0 -/
theorem astep_good {V : Type} (P : Params V) (c c' : ACfg V) (hG : Good c)
    (h : astep P c = .next c') : Good c' := by
  obtain ⟨n, e, _, hs⟩ := astep_next_shape P c c' h
  unfold Good
  rw [hs]
  exact ⟨inv_push _ _ (inv_pop _ _ hG.1), by rw [sp_push]; omega⟩

theorem arun_refines {V : Type} (P : Params V) (fuel : Nat) (c : ACfg V) (hG : Good c) :
    absOutcome (arun P fuel c) = some (D.run P fuel (absCfg c)) := by
  induction fuel generalizing c with
  | zero => rfl
  | succ k ih =>
    have h := astep_refines P c hG
    simp only [arun, D.run]
    cases hs : astep P c with
    | next c' =>
      rw [hs] at h; simp only [absStepR, Option.some.injEq] at h
      rw [← h]; exact ih c' (astep_good P c c' hG hs)
    | acc v c' | err c' | crash =>
      rw [hs] at h; simp only [absStepR, Option.some.injEq] at h
      rw [← h]; rfl
    | nil => rw [hs] at h; cases h

/-- the `return nil` exit of `Parser` is unreachable once `ParserInit` has run -/
theorem arun_ne_nil {V : Type} (P : Params V) (fuel : Nat) (c : ACfg V) (hG : Good c) :
    arun P fuel c ≠ .nil := by
  intro h
  have := arun_refines P fuel c hG
  rw [h] at this
  simp [absOutcome] at this

/-- the array is empty (context never initialised) or still has the bottom entry at index 0 -/
def BottomIntact {V : Type} (σ : AStack V) (bv : V) : Prop :=
  σ.a = [] ∨ σ.a[0]? = some (bottom bv)

/-- `ParserInit` of the context template appends, so what it leaves at index 0 is what was there -/
theorem initCtx_zero {V : Type} (σ : AStack V) (bv : V) (h : BottomIntact σ bv) :
    (initCtx σ bv).a[0]? = some (bottom bv) := by
  unfold initCtx
  rcases h with h | h
  · rw [h]; rfl
  · rw [List.getElem?_append_left (List.getElem?_eq_some_iff.mp h).1]; exact h

theorem abs_initCtx {V : Type} (σ : AStack V) (bv : V) (h : BottomIntact σ bv) : (initCtx σ bv).abs = [bottom bv] := by
  have := initCtx_zero σ bv h
  simp only [AStack.abs, initCtx, List.take_one, List.head?_eq_getElem?] at this ⊢
  rw [this]; rfl

/-- What the three initialisers have in common: the pointer within the array and the bottom entry
    alone in the live part.  From there the run is the list driver's run from `D.init`, and the
    `return nil` exit is dead. -/
theorem arun_of_bottom {V : Type} (P : Params V) (s : AStack V) (w : List (Sym × V)) (fuel : Nat) (bv : V)
    (hI : s.Inv) (ha : s.abs = [bottom bv]) :
    absOutcome (arun P fuel (ainit s w)) = some (D.run P fuel (D.init bv w)) ∧ arun P fuel (ainit s w) ≠ .nil := by
  have hG : Good (ainit s w) := ⟨hI, by show 1 ≤ s.sp; rw [← length_abs s hI, ha]; exact Nat.le_refl 1⟩
  refine ⟨?_, arun_ne_nil P fuel _ hG⟩
  rw [arun_refines P fuel _ hG, absCfg, ainit, ha]
  rfl

theorem push_get_zero {V : Type} (s : AStack V) (e : Entry V) (h1 : 1 ≤ s.sp) (hne : 0 < s.a.length) :
    (s.push e).a[0]? = s.a[0]? := by
  unfold AStack.push
  split
  · exact List.getElem?_append_left hne
  · exact List.getElem?_set_ne (by omega)

/-- index 0 is never written once `sp ≥ 1` -/
theorem astep_get_zero {V : Type} (P : Params V) (c c' : ACfg V) (hG : Good c)
    (h : astep P c = .next c') : c'.stack.a[0]? = c.stack.a[0]? := by
  obtain ⟨n, e, hn, hs⟩ := astep_next_shape P c c' h
  obtain ⟨hI, h1⟩ := hG
  unfold AStack.Inv at hI
  rw [hs]
  exact push_get_zero _ _ (by rw [sp_pop]; omega) (by show 0 < c.stack.a.length; omega)

end Y.AD
