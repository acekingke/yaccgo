import Lean.Meta.Tactic.Simp.RegisterCommand
/-! The simp sets with which `C08b` / `C08c` run the interpreters of `GoSem` / `TsSem` on a program
    text.  (An attribute cannot be used in the module that declares it.) -/

/-- equations of the interpreter `GoSem` and the arithmetic that running a Go text needs -/
register_simp_attr go_sem

/-- equations of the interpreter `TsSem` and the arithmetic that running a TypeScript text needs -/
register_simp_attr ts_sem
