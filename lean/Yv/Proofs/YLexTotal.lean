import Yv.Proofs.YLexRel
/-! C13, lexer half: the fuel `length + 2` always suffices, because every root step that continues has
    consumed at least one character. -/
namespace YLex

/-- `b` is obtained from `a` by consuming some characters -/
def Sfx (a b : St) : Prop := ∃ k, b.rest = a.rest.drop k

theorem Sfx.refl (a : St) : Sfx a a := ⟨0, rfl⟩
theorem Sfx.trans {a b c : St} (h1 : Sfx a b) (h2 : Sfx b c) : Sfx a c := by
  obtain ⟨k1, e1⟩ := h1; obtain ⟨k2, e2⟩ := h2
  exact ⟨k1 + k2, by rw [e2, e1, List.drop_drop]⟩
theorem Sfx.len {a b : St} (h : Sfx a b) : b.rest.length ≤ a.rest.length := by
  obtain ⟨k, e⟩ := h; rw [e, List.length_drop]; exact Nat.sub_le _ _

theorem adv_eq (st : St) (n : Nat) :
    st.adv n = ⟨st.rest.drop n, (st.rest.take n).reverse ++ st.pend, st.pos + min n st.rest.length⟩ := by
  induction n generalizing st with
  | zero => simp [St.adv]
  | succ n ih =>
    obtain ⟨r, pd, p⟩ := st
    cases r with
    | nil => simp [St.adv]
    | cons c cs => simp [St.adv, ih]; omega

theorem adv_rest (st : St) (n : Nat) : (st.adv n).rest = st.rest.drop n := by rw [adv_eq]

/-- `st.skipWhile p` unfolds to some `st.adv k`, and `ignore` does not change `rest`: the goals
    `Sfx st (st.skipWhile p)` and `Sfx st (st.adv n).ignore` are instances of this lemma up to unfolding
    (so used in `sfx_acceptWord`). -/
theorem sfx_self_adv (st : St) (n : Nat) : Sfx st (st.adv n) := ⟨n, adv_rest st n⟩

theorem Sfx.adv_right {a b : St} {n : Nat} (h : Sfx a b) : Sfx a (b.adv n) := h.trans (sfx_self_adv _ _)

theorem sfx_adv_adv_add (st : St) (m n : Nat) : Sfx (st.adv m) (st.adv (m + n)) :=
  ⟨n, by rw [adv_rest, adv_rest, List.drop_drop]⟩

theorem Sfx.adv_both {a b : St} (h : Sfx a b) (n : Nat) : Sfx (a.adv n) (b.adv n) := by
  obtain ⟨k, e⟩ := h
  exact ⟨k, by rw [adv_rest, adv_rest, e, List.drop_drop, List.drop_drop, Nat.add_comm]⟩

theorem sfx_acceptWord {w : String} {st s : St} (h : acceptWord w st = some s) : Sfx st s := by
  simp only [acceptWord] at h
  repeat' split at h
  all_goals cases h
  all_goals exact (sfx_self_adv st _).adv_right

/-- "the same state, and a suffix of `s0`" is respected by the state functions -/
theorem sfx_rel (s0 : St) : StRel fun a b => a = b ∧ Sfx s0 a :=
  ⟨fun h => h.1 ▸ rfl, fun h => h.1 ▸ rfl, fun _ h => ⟨h.1 ▸ rfl, h.2.adv_right⟩, fun h => ⟨h.1 ▸ rfl, h.2⟩⟩

theorem sfx_dispatch (c : Char) (st : St) : Sfx st (dispatch c st).st :=
  (rel_dispatch (sfx_rel st) c ⟨rfl, .refl st⟩).st.2

/-- a comment consumes at least its first character -/
theorem sfx_comment1 (st : St) : Sfx (st.adv 1) (commentState st).st := by
  have h2 : Sfx (st.adv 1) (st.adv 2) := sfx_adv_adv_add st 1 1
  unfold commentState
  split
  · exact (sfx_self_adv st _).adv_both 1
  · simp only; split <;> exact h2.adv_right

theorem sfx_comment (st : St) : Sfx st (commentState st).st := (sfx_self_adv st 1).trans (sfx_comment1 st)

theorem sfx_rootStep (st : St) : Sfx (st.adv 1) (rootStep st).st := by
  unfold rootStep
  split
  · exact sfx_comment1 st
  · split
    · rename_i h; exact ⟨0, by rw [adv_rest, h]; exact h⟩
    · exact sfx_dispatch _ _

theorem rootStep_nil {st : St} (h : st.rest = []) : (rootStep st).go = false := by
  unfold rootStep; rw [h]; rfl

theorem rootStep_progress (st : St) (h : (rootStep st).go = true) :
    (rootStep st).st.rest.length < st.rest.length := by
  have hl := (sfx_rootStep st).len
  rw [adv_rest, List.length_drop] at hl
  have : st.rest ≠ [] := fun e => by rw [rootStep_nil e] at h; cases h
  have := List.length_pos_iff.mpr this
  omega

theorem lexRoot_fuel (n : Nat) (st : St) (acc : Array Tok) (h : st.rest.length < n) :
    (lexRoot n st acc).2 = true := by
  induction n generalizing st acc with
  | zero => omega
  | succ n ih =>
    unfold lexRoot
    simp only
    split
    · rename_i hgo
      exact ih _ _ (by have := rootStep_progress st hgo; omega)
    · rfl

/-- C13, lexer half: with fuel `length + 2` the lexer always stops by itself -/
theorem lexAll_total (s : String) : (lexAll s).2 = true :=
  lexRoot_fuel _ _ _ (by simp)

end YLex
