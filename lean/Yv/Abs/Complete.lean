import Yv.Abs.Sound
/-! The completeness induction (C02) on the abstract machine of `Yv/Abs/Sound.lean`: derivations as ONE
    inductive relation on symbol sequences (`GenL`, a parse forest), the closure conditions on a table
    annotated with lookahead items, and the simulation lemma `sim_on`, stated with those conditions as separate
    hypotheses (`sim` bundles them as `Complete`; the driver proof uses `sim_on` through `CompleteX`). -/
namespace Y

/-- `GenL G γ w`: the symbol sequence γ derives the terminal string w (big-step, = a parse forest) -/
inductive GenL (G : Grammar) : List Sym → List Sym → Prop
  | nil : GenL G [] []
  | tm (t : Sym) (γ v : List Sym) : G.isT t = true → GenL G γ v → GenL G (t :: γ) (t :: v)
  | nt (r : Nat) (rl : Rule) (γ u v : List Sym) : G.rules[r]? = some rl → GenL G rl.rhs u → GenL G γ v →
      GenL G (rl.lhs :: γ) (u ++ v)

/-- `a` can be the first terminal of a terminal string derived from γ -/
def FirstOf (G : Grammar) (γ : List Sym) (a : Sym) : Prop := ∃ u, GenL G γ (a :: u)

theorem GenL.append {G : Grammar} {γ1 u : List Sym} (h1 : GenL G γ1 u) {γ2 v : List Sym}
    (h2 : GenL G γ2 v) : GenL G (γ1 ++ γ2) (u ++ v) := by
  induction h1 with
  | nil => simpa using h2
  | tm t γ w ht _ ih => exact .tm t _ _ ht ih
  | nt r rl γ u' v' hr hb _ _ ih2 =>
    have := GenL.nt r rl (γ ++ γ2) u' (v' ++ v) hr hb ih2
    simpa [List.append_assoc] using this

theorem GenL.cons1 {G : Grammar} {x : Sym} {u : List Sym} (h1 : GenL G [x] u) {γ v : List Sym}
    (h2 : GenL G γ v) : GenL G (x :: γ) (u ++ v) := GenL.append h1 h2

theorem GenL.terms {G : Grammar} {γ w : List Sym} (h : GenL G γ w) : ∀ t ∈ w, G.isT t = true := by
  induction h with
  | nil => intro t ht; cases ht
  | tm t γ v ht _ ih =>
    intro s hs
    rcases List.mem_cons.mp hs with rfl | hs
    · exact ht
    · exact ih s hs
  | nt r rl γ u v _ _ _ ih1 ih2 =>
    intro s hs
    rcases List.mem_append.mp hs with hs | hs
    · exact ih1 s hs
    · exact ih2 s hs

theorem GenL.ofRule {G : Grammar} {r : Nat} {rl : Rule} (hr : G.rules[r]? = some rl) {u : List Sym}
    (h : GenL G rl.rhs u) : GenL G [rl.lhs] u := by
  simpa using GenL.nt r rl [] u [] hr h .nil

theorem GenL.term1 {G : Grammar} {t : Sym} (ht : G.isT t = true) : GenL G [t] [t] :=
  .tm t [] [] ht .nil

theorem GenL.snocT {G : Grammar} {γ w} (h : GenL G γ w) (a : Sym) (ha : G.isT a = true) :
    GenL G (γ ++ [a]) (w ++ [a]) := h.append (.term1 ha)

theorem GenL.ofTerms {G : Grammar} : ∀ (z : List Sym), (∀ t ∈ z, G.isT t = true) → GenL G z z
  | [], _ => .nil
  | t :: z, h => .tm t z z (h t List.mem_cons_self)
      (GenL.ofTerms z (fun s hs => h s (List.mem_cons_of_mem _ hs)))

theorem GenL.split {G : Grammar} : ∀ (γ1 γ2 w : List Sym), GenL G (γ1 ++ γ2) w →
    ∃ u v, w = u ++ v ∧ GenL G γ1 u ∧ GenL G γ2 v := by
  intro γ1
  induction γ1 with
  | nil =>
    intro γ2 w h
    exact ⟨[], w, rfl, .nil, by simpa only [List.nil_append] using h⟩
  | cons x γ1 ih =>
    intro γ2 w h
    rw [List.cons_append] at h
    cases h with
    | tm t γ v ht h' =>
      obtain ⟨u1, u2, rfl, ha, hb⟩ := ih γ2 _ h'
      exact ⟨x :: u1, u2, rfl, .tm x _ _ ht ha, hb⟩
    | nt r rl γ ua ub hr ha h' =>
      obtain ⟨u1, u2, rfl, hc, hb⟩ := ih γ2 _ h'
      exact ⟨ua ++ u1, u2, by simp only [List.append_assoc], .nt r rl _ _ _ hr ha hc, hb⟩

def steps (G : Grammar) (T : Tab) : Nat → Cfg → Option Cfg
  | 0, c => some c
  | n+1, c => match step G T c with
    | .next c' => steps G T n c'
    | _ => none

theorem steps_add (G : Grammar) (T : Tab) (m n : Nat) (c c' c'' : Cfg)
    (h1 : steps G T m c = some c') (h2 : steps G T n c' = some c'') :
    steps G T (m + n) c = some c'' := by
  induction m generalizing c with
  | zero =>
    change some c = some c' at h1
    cases h1; simpa using h2
  | succ k ih =>
    have : k + 1 + n = (k + n) + 1 := by omega
    rw [this]
    unfold steps at h1 ⊢
    split at h1
    · rename_i c1 hs
      exact ih c1 h1
    · cases h1

structure GWF (G : Grammar) : Prop where
  lhsNT : ∀ (r : Nat) (rl : Rule), G.rules[r]? = some rl → G.isT rl.lhs = false

/-- the completeness certificate, as facts about lookahead-annotated items `It q r d b` -/
structure Complete (G : Grammar) (T : Tab) (It : Nat → Nat → Nat → Sym → Prop) : Prop where
  closure : ∀ (q r d : Nat) (b : Sym) (rl : Rule) (a : Sym) (r' : Nat) (rl' : Rule), It q r d b → G.rules[r]? = some rl →
      G.rules[r']? = some rl' → rl.rhs[d]? = some rl'.lhs →
      FirstOf G (rl.rhs.drop (d+1) ++ [b]) a → It q r' 0 a
  shift : ∀ (q r d : Nat) (b : Sym) (rl : Rule) (t : Sym), It q r d b → G.rules[r]? = some rl → rl.rhs[d]? = some t →
      G.isT t = true → ∃ p, T.act q t = .shift p ∧ It p r (d+1) b
  goto : ∀ (q r d : Nat) (b : Sym) (rl : Rule) (B : Sym), It q r d b → G.rules[r]? = some rl → rl.rhs[d]? = some B →
      G.isT B = false → ∃ p, T.goto q B = some p ∧ It p r (d+1) b
  reduce : ∀ (q r : Nat) (a : Sym) (rl : Rule), G.rules[r]? = some rl → It q r rl.rhs.length a → T.act q a = .reduce r
  lookT : ∀ (q r d : Nat) (b : Sym), It q r d b → G.isT b = true

theorem step_reduce (G : Grammar) (T : Tab) (c : Cfg) (a : Sym) (v : List Sym) (r : Nat) (rl : Rule)
    (ext base : List (Nat × Sym)) (p : Nat)
    (hrest : c.rest = a :: v) (hact : T.act (top c) a = .reduce r) (hr : G.rules[r]? = some rl)
    (hstk : c.stack = ext ++ base) (hlen : ext.length = rl.rhs.length)
    (hg : T.goto (topOf base) rl.lhs = some p) :
    step G T c = .next { c with stack := (p, rl.lhs) :: base, reds := r :: c.reds } := by
  have hle : rl.rhs.length ≤ c.stack.length := by rw [hstk, ← hlen]; simp
  have hdrop : c.stack.drop rl.rhs.length = base := by rw [hstk, ← hlen]; simp
  unfold step
  rw [hrest]
  simp only [hact, hr, hle, if_true, hdrop, hg]

theorem drop_cons_inv {l : List Sym} {k : Nat} {x : Sym} {γ : List Sym} (h : l.drop k = x :: γ) :
    l[k]? = some x ∧ l.drop (k+1) = γ ∧ k + 1 ≤ l.length := by
  refine ⟨?_, ?_, Nat.lt_of_not_le fun hle => ?_⟩
  · rw [← Nat.add_zero k, ← List.getElem?_drop, h]; rfl
  · rw [← List.drop_drop, h]; rfl
  · rw [List.drop_eq_nil_iff.mpr hle] at h; cases h

/-- Main simulation lemma: parsing the remainder `γ = rhs.drop k` of an item.  The reduce clause
    is asked only of the rules in `ok`, which must contain every rule whose left-hand side occurs
    in a right-hand side (no other rule is reduced inside the remainder of an item). -/
theorem sim_on (G : Grammar) (T : Tab) (It : Nat → Nat → Nat → Sym → Prop) (ok : Nat → Prop)
    (lhsNT : ∀ (r : Nat) (rl : Rule), G.rules[r]? = some rl → G.isT rl.lhs = false)
    (called : ∀ (r : Nat) (rl : Rule) (r' : Nat) (rl' : Rule) (d : Nat), G.rules[r]? = some rl →
      G.rules[r']? = some rl' → rl.rhs[d]? = some rl'.lhs → ok r')
    (closure : ∀ (q r d : Nat) (b : Sym) (rl : Rule) (a : Sym) (r' : Nat) (rl' : Rule), It q r d b →
      G.rules[r]? = some rl → G.rules[r']? = some rl' → rl.rhs[d]? = some rl'.lhs →
      FirstOf G (rl.rhs.drop (d+1) ++ [b]) a → It q r' 0 a)
    (shift : ∀ (q r d : Nat) (b : Sym) (rl : Rule) (t : Sym), It q r d b → G.rules[r]? = some rl →
      rl.rhs[d]? = some t → G.isT t = true → ∃ p, T.act q t = .shift p ∧ It p r (d+1) b)
    (goto : ∀ (q r d : Nat) (b : Sym) (rl : Rule) (B : Sym), It q r d b → G.rules[r]? = some rl →
      rl.rhs[d]? = some B → G.isT B = false → ∃ p, T.goto q B = some p ∧ It p r (d+1) b)
    (reduce : ∀ (q r : Nat) (a : Sym) (rl : Rule), ok r → G.rules[r]? = some rl →
      It q r rl.rhs.length a → T.act q a = .reduce r)
    (lookT : ∀ (q r d : Nat) (b : Sym), It q r d b → G.isT b = true) :
    ∀ (γ w : List Sym), GenL G γ w →
    ∀ (c : Cfg) (r k : Nat) (a : Sym) (rl : Rule) (v : List Sym),
    It (top c) r k a → G.rules[r]? = some rl → k ≤ rl.rhs.length → rl.rhs.drop k = γ →
    c.rest = w ++ a :: v →
    ∃ n c', steps G T n c = some c' ∧
      (∃ ext : List (Nat × Sym), c'.stack = ext ++ c.stack ∧ ext.length = γ.length) ∧
      c'.rest = a :: v ∧ It (top c') r rl.rhs.length a := by
  intro γ w h
  induction h with
  | nil =>
    intro c r k a rl v hit hr hk hdrop hrest
    have : k = rl.rhs.length := Nat.le_antisymm hk (List.drop_eq_nil_iff.mp hdrop)
    subst this
    exact ⟨0, c, rfl, ⟨[], rfl, rfl⟩, hrest, hit⟩
  | tm t γ w' ht _ ih =>
    intro c r k a rl v hit hr hk hdrop hrest
    obtain ⟨hx, hdrop', hk'⟩ := drop_cons_inv hdrop
    obtain ⟨p, hact, hp⟩ := shift (top c) r k a rl t hit hr hx ht
    let c1 : Cfg := { c with stack := (p, t) :: c.stack, rest := w' ++ a :: v }
    have hs1 : steps G T 1 c = some c1 := by
      simp only [steps, step, hrest, List.cons_append, hact, c1]
    obtain ⟨n, c', hs, ⟨ext, hext, hlen⟩, hr', hit'⟩ :=
      ih c1 r (k+1) a rl v hp hr hk' hdrop' rfl
    exact ⟨1 + n, c', steps_add G T 1 n c c1 c' hs1 hs,
      ⟨ext ++ [(p, t)], by rw [hext, List.append_assoc]; rfl, by simp [hlen]⟩, hr', hit'⟩
  | nt r' rl' γ u w' hr' _ hγ ih1 ih2 =>
    intro c r k a rl v hit hr hk hdrop hrest
    obtain ⟨hx, hdrop', hk'⟩ := drop_cons_inv hdrop
    -- the token that follows the yield of this nonterminal
    obtain ⟨a1, v1, hw1⟩ : ∃ a1 v1, w' ++ a :: v = a1 :: v1 := by
      cases w' with
      | nil => exact ⟨a, v, rfl⟩
      | cons x xs => exact ⟨x, xs ++ a :: v, rfl⟩
    have hfirst : FirstOf G (rl.rhs.drop (k+1) ++ [a]) a1 := by
      rw [hdrop']
      have := GenL.snocT hγ a (lookT _ _ _ _ hit)
      cases w' with
      | nil => cases hw1; exact ⟨[], this⟩
      | cons x xs => cases hw1; exact ⟨xs ++ [a], this⟩
    have hit0 : It (top c) r' 0 a1 := closure (top c) r k a rl a1 r' rl' hit hr hr' hx hfirst
    obtain ⟨n1, c1, hs1, ⟨ext1, hext1, hlen1⟩, hrest1, hit1⟩ :=
      ih1 c r' 0 a1 rl' v1 hit0 hr' (Nat.zero_le _) rfl (by rw [hrest, List.append_assoc, hw1])
    have hact : T.act (top c1) a1 = .reduce r' := reduce _ _ _ _ (called r rl r' rl' k hr hr' hx) hr' hit1
    obtain ⟨p, hgoto, hp⟩ := goto (top c) r k a rl rl'.lhs hit hr hx (lhsNT r' rl' hr')
    let c2 : Cfg := { c1 with stack := (p, rl'.lhs) :: c.stack, reds := r' :: c1.reds }
    have hs2 : steps G T 1 c1 = some c2 := by
      simp only [steps, step_reduce G T c1 a1 v1 r' rl' ext1 c.stack p hrest1 hact hr' hext1 hlen1 hgoto, c2]
    obtain ⟨n3, c3, hs3, ⟨ext3, hext3, hlen3⟩, hrest3, hit3⟩ :=
      ih2 c2 r (k+1) a rl v hp hr hk' hdrop' (hrest1.trans hw1.symm)
    exact ⟨(n1 + 1) + n3, c3,
      steps_add G T (n1+1) n3 c c2 c3 (steps_add G T n1 1 c c1 c2 hs1 hs2) hs3,
      ⟨ext3 ++ [(p, rl'.lhs)], by rw [hext3, List.append_assoc]; rfl, by simp [hlen3]⟩, hrest3, hit3⟩

theorem sim (G : Grammar) (T : Tab) (It) (hG : GWF G) (hC : Complete G T It) :
    ∀ (γ w : List Sym), GenL G γ w →
    ∀ (c : Cfg) (r k : Nat) (a : Sym) (rl : Rule) (v : List Sym),
    It (top c) r k a → G.rules[r]? = some rl → k ≤ rl.rhs.length → rl.rhs.drop k = γ →
    c.rest = w ++ a :: v →
    ∃ n c', steps G T n c = some c' ∧
      (∃ ext : List (Nat × Sym), c'.stack = ext ++ c.stack ∧ ext.length = γ.length) ∧
      c'.rest = a :: v ∧ It (top c') r rl.rhs.length a :=
  sim_on G T It (fun _ => True) hG.lhsNT (fun _ _ _ _ _ _ _ _ => trivial) hC.closure hC.shift hC.goto
    (fun q r a rl _ => hC.reduce q r a rl) hC.lookT

end Y
