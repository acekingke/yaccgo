import Yv.Abs.Complete
/-! C03 on the declarative level: LALR(1) propagation over the LR(0) automaton (`LA`) = union over the
    canonical LR(1) states (`St1`, described relationally by the path that reaches them); `LA_iff`. -/
namespace Y

structure Item where
  r : Nat
  d : Nat
deriving DecidableEq, Repr

/-- side condition of an LR(1) closure step: from [r,d,b] derive [r',0,a] -/
def ClStep (G : Grammar) (r d : Nat) (b : Sym) (r' : Nat) (a : Sym) : Prop :=
  ∃ rl rl', G.rules[r]? = some rl ∧ G.rules[r']? = some rl' ∧ rl.rhs[d]? = some rl'.lhs ∧
    FirstOf G (rl.rhs.drop (d+1) ++ [b]) a

/-- LR(1) closure of a kernel -/
inductive Cl1 (G : Grammar) (K : Item → Sym → Prop) : Item → Sym → Prop
  | base (it : Item) (a : Sym) : K it a → Cl1 G K it a
  | step (r d : Nat) (b : Sym) (r' : Nat) (a : Sym) :
      Cl1 G K ⟨r, d⟩ b → ClStep G r d b r' a → Cl1 G K ⟨r', 0⟩ a

/-- kernel of the successor state over X -/
def adv (G : Grammar) (X : Sym) (S : Item → Sym → Prop) : Item → Sym → Prop :=
  fun it a => ∃ r d rl, it = ⟨r, d+1⟩ ∧ G.rules[r]? = some rl ∧ rl.rhs[d]? = some X ∧ S ⟨r, d⟩ a

/-- canonical LR(1) state reached by a path (given most-recent-symbol first) -/
def St1 (G : Grammar) : List Sym → Item → Sym → Prop
  | [] => Cl1 G (fun it a => it = ⟨0, 0⟩ ∧ a = 1)
  | X :: γ => Cl1 G (adv G X (St1 G γ))

/-- LR(0) goto function and the state reached by a path -/
def pathr (goto : Nat → Sym → Option Nat) : List Sym → Option Nat
  | [] => some 0
  | X :: γ => (pathr goto γ).bind (fun q => goto q X)

/-- LALR(1) lookahead facts: least solution of the propagation rules over the automaton -/
inductive LA (G : Grammar) (goto : Nat → Sym → Option Nat) : Nat → Item → Sym → Prop
  | init : LA G goto 0 ⟨0, 0⟩ 1
  | clos (q r d : Nat) (b : Sym) (r' : Nat) (a : Sym) :
      LA G goto q ⟨r, d⟩ b → ClStep G r d b r' a → LA G goto q ⟨r', 0⟩ a
  | goto (q r d : Nat) (b : Sym) (rl : Rule) (X : Sym) (p : Nat) :
      LA G goto q ⟨r, d⟩ b → G.rules[r]? = some rl → rl.rhs[d]? = some X → goto q X = some p →
      LA G goto p ⟨r, d+1⟩ b

theorem St1_step (G : Grammar) (γ : List Sym) (r d : Nat) (b : Sym) (r' : Nat) (a : Sym)
    (h : St1 G γ ⟨r, d⟩ b) (hs : ClStep G r d b r' a) : St1 G γ ⟨r', 0⟩ a := by
  cases γ with
  | nil => exact Cl1.step r d b r' a h hs
  | cons X γ => exact Cl1.step r d b r' a h hs

/-- LALR facts are LR(1) facts of some state with the same LR(0) access path -/
theorem LA_sound (G : Grammar) (goto) (q : Nat) (it : Item) (a : Sym) (h : LA G goto q it a) :
    ∃ γ, pathr goto γ = some q ∧ St1 G γ it a := by
  induction h with
  | init => exact ⟨[], rfl, Cl1.base _ _ ⟨rfl, rfl⟩⟩
  | clos q r d b r' a _ hs ih =>
    obtain ⟨γ, hp, hst⟩ := ih
    exact ⟨γ, hp, St1_step G γ r d b r' a hst hs⟩
  | goto q r d b rl X p _ hr hx hg ih =>
    obtain ⟨γ, hp, hst⟩ := ih
    refine ⟨X :: γ, by simp [pathr, hp, hg], ?_⟩
    exact Cl1.base _ _ ⟨r, d, rl, rfl, hr, hx, hst⟩

/-- every LR(1) fact of a state reached by a path to q is an LALR fact at q -/
theorem LA_complete (G : Grammar) (goto) :
    ∀ (γ : List Sym) (q : Nat) (it : Item) (a : Sym), pathr goto γ = some q → St1 G γ it a →
      LA G goto q it a := by
  intro γ
  induction γ with
  | nil =>
    intro q it a hp hst
    simp [pathr] at hp; subst hp
    induction hst with
    | base it a hk => obtain ⟨rfl, rfl⟩ := hk; exact LA.init
    | step r d b r' a _ hs ih => exact LA.clos 0 r d b r' a ih hs
  | cons X γ ihγ =>
    intro q it a hp hst
    simp only [pathr] at hp
    cases hq' : pathr goto γ with
    | none => simp [hq'] at hp
    | some q' =>
      simp [hq'] at hp
      induction hst with
      | base it a hk =>
        obtain ⟨r, d, rl, rfl, hr, hx, hs⟩ := hk
        exact LA.goto q' r d a rl X q (ihγ q' ⟨r, d⟩ a hq' hs) hr hx hp
      | step r d b r' a _ hs ih => exact LA.clos q r d b r' a ih hs

/-- C03, model level: LALR(1) = union over canonical LR(1) states with the same access state -/
theorem LA_iff (G : Grammar) (goto) (q : Nat) (it : Item) (a : Sym) :
    LA G goto q it a ↔ ∃ γ, pathr goto γ = some q ∧ St1 G γ it a :=
  ⟨LA_sound G goto q it a, fun ⟨γ, hp, hs⟩ => LA_complete G goto γ q it a hp hs⟩

end Y
