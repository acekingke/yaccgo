namespace Y

abbrev Sym := Nat
structure Rule where
  lhs : Sym
  rhs : List Sym
deriving Repr, DecidableEq

structure Grammar where
  nT : Nat               -- terminals are 1..nT (1 = end marker)
  rules : List Rule      -- rule 0 = start' -> S
deriving Repr

def Grammar.isT (G : Grammar) (x : Sym) : Bool := 1 ≤ x && x ≤ G.nT

/-- rightmost derivation run: from sentential form `a`, applying rules `rs` in order, reaching `b`.
    each step rewrites a nonterminal whose right context is all terminals. -/
inductive RmDer (G : Grammar) : List Sym → List Nat → List Sym → Prop
  | nil (a) : RmDer G a [] a
  | step (pre : List Sym) (r : Nat) (rl : Rule) (z : List Sym) (rs b) :
      G.rules[r]? = some rl → (∀ t ∈ z, G.isT t = true) →
      RmDer G (pre ++ rl.rhs ++ z) rs b →
      RmDer G (pre ++ [rl.lhs] ++ z) (r :: rs) b

/-- abstract LR configuration: stack of (state, symbol) above the bottom state, remaining input, reductions so far -/
structure Cfg where
  stack : List (Nat × Sym)   -- top is head
  rest  : List Sym
  reds  : List Nat           -- most recent first
deriving Repr

def syms (st : List (Nat × Sym)) : List Sym := (st.map Prod.snd).reverse

inductive Act | shift (p : Nat) | reduce (r : Nat) | accept | error
deriving Repr, DecidableEq

structure Tab where
  act  : Nat → Sym → Act
  goto : Nat → Sym → Option Nat

def topOf (st : List (Nat × Sym)) : Nat := match st with | [] => 0 | (q,_)::_ => q
def top (c : Cfg) : Nat := topOf c.stack

inductive StepR | next (c : Cfg) | acc (c : Cfg) | err | crash

def step (G : Grammar) (T : Tab) (c : Cfg) : StepR :=
  match c.rest with
  | [] => .crash
  | a :: v =>
    match T.act (top c) a with
    | .error => .err
    | .accept => .acc c
    | .shift p => .next { c with stack := (p, a) :: c.stack, rest := v }
    | .reduce r =>
      match G.rules[r]? with
      | none => .crash
      | some rl =>
        if rl.rhs.length ≤ c.stack.length then
          let st' := c.stack.drop rl.rhs.length
          let q := topOf st'
          match T.goto q rl.lhs with
          | none => .crash
          | some p => .next { c with stack := (p, rl.lhs) :: st', reds := r :: c.reds }
        else .crash

/-- the semantic invariant carried by the certificate: whenever the table says reduce r on top state,
    the top |rhs| stack symbols spell rhs.  Here it is a hypothesis of `step_inv`; for the concrete
    driver it follows from the decidable LR(0) certificate (`Y.D.handle_rhs`, Proofs/DSound). -/
def HandleOK (G : Grammar) (T : Tab) (c : Cfg) : Prop :=
  ∀ a r rl, T.act (top c) a = .reduce r → G.rules[r]? = some rl →
    rl.rhs.length ≤ c.stack.length ∧ syms (c.stack.take rl.rhs.length) = rl.rhs

/-- derivation invariant -/
def Inv (G : Grammar) (w : List Sym) (c : Cfg) : Prop :=
  (∀ t ∈ c.rest, G.isT t = true) ∧ RmDer G (syms c.stack ++ c.rest) c.reds w

theorem syms_cons (p : Nat) (a : Sym) (st) : syms ((p,a)::st) = syms st ++ [a] := by
  simp [syms]

theorem syms_take_drop (st : List (Nat × Sym)) (n : Nat) :
    syms st = syms (st.drop n) ++ syms (st.take n) := by
  simp [syms, ← List.reverse_append]

theorem step_inv (G : Grammar) (T : Tab) (w : List Sym) (c c' : Cfg)
    (h : Inv G w c) (hh : HandleOK G T c) (hs : step G T c = .next c') : Inv G w c' := by
  obtain ⟨hT, hD⟩ := h
  unfold step at hs
  split at hs
  · cases hs
  · rename_i a v hrest
    split at hs
    · cases hs
    · cases hs
    · rename_i p hact
      cases hs
      refine ⟨?_, ?_⟩
      · intro t ht; exact hT t (by simp [hrest, ht])
      · simpa [syms_cons, hrest] using hD
    · rename_i r hact
      split at hs
      · cases hs
      · rename_i rl hrl
        split at hs
        · rename_i hlen
          dsimp only at hs
          split at hs
          · cases hs
          · rename_i p hg
            cases hs
            obtain ⟨_, hsp⟩ := hh a r rl hact hrl
            refine ⟨hT, ?_⟩
            have e := syms_take_drop c.stack rl.rhs.length
            simp only [syms_cons]
            have hD' : RmDer G (syms (c.stack.drop rl.rhs.length) ++ rl.rhs ++ c.rest) c.reds w := by
              rw [e, hsp] at hD; exact hD
            have := RmDer.step (G := G) (syms (c.stack.drop rl.rhs.length)) r rl c.rest c.reds w hrl hT hD'
            simpa using this
        · cases hs
end Y
