import Yv.Abs.Lalr
/-! C06_prefix on the declarative level: items of the canonical LR(0) state reached by a path are
    valid for that path; hence the path is a viable prefix and (right-hand sides productive) extends to
    a sentence. -/
namespace Y

/-- one rewriting step anywhere, and its reflexive-transitive closure -/
inductive Derives (G : Grammar) : List Sym → List Sym → Prop
  | refl (a : List Sym) : Derives G a a
  | step (pre post : List Sym) (r : Nat) (rl : Rule) (b : List Sym) :
      G.rules[r]? = some rl → Derives G (pre ++ rl.rhs ++ post) b → Derives G (pre ++ [rl.lhs] ++ post) b

theorem Derives.trans {G : Grammar} {a b c : List Sym} (h1 : Derives G a b) (h2 : Derives G b c) :
    Derives G a c := by
  induction h1 with
  | refl => exact h2
  | step pre post r rl b hr _ ih => exact .step pre post r rl c hr (ih h2)

theorem Derives.ctx {G : Grammar} {a b : List Sym} (h : Derives G a b) (l r : List Sym) :
    Derives G (l ++ a ++ r) (l ++ b ++ r) := by
  induction h with
  | refl => exact .refl _
  | step pre post k rl b hr _ ih =>
    have := Derives.step (l ++ pre) (post ++ r) k rl (l ++ b ++ r) hr (by simpa [List.append_assoc] using ih)
    simpa [List.append_assoc] using this

theorem Derives.append {G : Grammar} {a b c d : List Sym} (h1 : Derives G a b) (h2 : Derives G c d) :
    Derives G (a ++ c) (b ++ d) := by
  have e1 : Derives G ([] ++ a ++ c) ([] ++ b ++ c) := h1.ctx [] c
  have e2 : Derives G (b ++ c ++ []) (b ++ d ++ []) := h2.ctx b []
  simp only [List.nil_append, List.append_nil] at e1 e2
  exact e1.trans e2

def Terminals (G : Grammar) (z : List Sym) : Prop := ∀ t ∈ z, G.isT t = true

theorem Derives.rule {G : Grammar} {r : Nat} {rl : Rule} (hr : G.rules[r]? = some rl) :
    Derives G [rl.lhs] rl.rhs := by
  have := Derives.step (G := G) [] [] r rl ([] ++ rl.rhs ++ []) hr (.refl _)
  simpa only [List.nil_append, List.append_nil] using this

theorem GenL.derives {G : Grammar} {γ w : List Sym} (h : GenL G γ w) : Derives G γ w := by
  induction h with
  | nil => exact .refl _
  | tm t γ v _ _ ih => exact Derives.append (.refl [t]) ih
  | nt r rl γ u v hr _ _ ih1 ih2 =>
    exact Derives.append ((Derives.rule hr).trans ih1) ih2

theorem Derives.genL {G : Grammar} {a b : List Sym} (h : Derives G a b) (hb : Terminals G b) :
    GenL G a b := by
  induction h with
  | refl a => exact GenL.ofTerms a hb
  | step pre post r rl b hr _ ih =>
    obtain ⟨u12, u3, rfl, h12, h3⟩ := GenL.split _ _ _ (ih hb)
    obtain ⟨u1, u2, rfl, h1, h2⟩ := GenL.split _ _ _ h12
    exact GenL.append (GenL.append h1 (GenL.ofRule hr h2)) h3

theorem RmDer.derives {G : Grammar} {a b : List Sym} {rs : List Nat} (h : RmDer G a rs b) :
    Derives G a b := by
  induction h with
  | nil a => exact .refl a
  | step pre r rl z rs b hr _ _ ih => exact .step pre z r rl b hr ih

theorem Derives.inv {G : Grammar} {a b : List Sym} (h : Derives G a b) :
    a = b ∨ ∃ (pre post : List Sym) (r : Nat) (rl : Rule), G.rules[r]? = some rl ∧ a = pre ++ [rl.lhs] ++ post ∧
      Derives G (pre ++ rl.rhs ++ post) b := by
  cases h with
  | refl => exact Or.inl rfl
  | step pre post r rl b hr h' => exact Or.inr ⟨pre, post, r, rl, hr, rfl, h'⟩

/-- every symbol sequence derives some terminal string (no grammar satisfies this: see `RhsProductive`) -/
def AllProductive (G : Grammar) : Prop := ∀ γ : List Sym, ∃ y, Terminals G y ∧ Derives G γ y

/-- every suffix of every right-hand side derives some terminal string: all that the validity
    lemmas below need, and what `prodOK` gives (`AllProductive` holds of no grammar: a symbol
    that is neither a terminal nor a left-hand side derives nothing) -/
def RhsProductive (G : Grammar) : Prop :=
  ∀ (r : Nat) (rl : Rule), G.rules[r]? = some rl → ∀ k : Nat,
    ∃ y, Terminals G y ∧ Derives G (rl.rhs.drop k) y

theorem AllProductive.rhs {G : Grammar} (h : AllProductive G) : RhsProductive G :=
  fun _ rl _ k => h (rl.rhs.drop k)

theorem Terminals.append {G : Grammar} {y z : List Sym} (hy : Terminals G y) (hz : Terminals G z) :
    Terminals G (y ++ z) :=
  fun t ht => (List.mem_append.mp ht).elim (hy t) (hz t)

/-! LR(0) closure, successor kernel, canonical state by path: the LR(0) counterparts of `Cl1`, `adv`,
    `St1` -/

/-- LR(0) closure of a kernel -/
inductive Cl0 (G : Grammar) (K : Item → Prop) : Item → Prop
  | base (it : Item) : K it → Cl0 G K it
  | step (r d r' : Nat) (rl rl' : Rule) : Cl0 G K ⟨r, d⟩ → G.rules[r]? = some rl →
      G.rules[r']? = some rl' → rl.rhs[d]? = some rl'.lhs → Cl0 G K ⟨r', 0⟩

/-- kernel of the successor state over X -/
def adv0 (G : Grammar) (X : Sym) (S : Item → Prop) : Item → Prop :=
  fun it => ∃ r d rl, it = ⟨r, d+1⟩ ∧ G.rules[r]? = some rl ∧ rl.rhs[d]? = some X ∧ S ⟨r, d⟩

/-- canonical LR(0) state reached by a path (given most-recent-symbol first) -/
def St0 (G : Grammar) : List Sym → Item → Prop
  | [] => Cl0 G (fun it => it = ⟨0, 0⟩)
  | X :: γ => Cl0 G (adv0 G X (St0 G γ))

/-- item `A → α·β` is valid for the viable prefix `γ` (start symbol = lhs of rule 0) -/
def Valid (G : Grammar) (γ : List Sym) (it : Item) : Prop :=
  ∃ rl0 rl δ z, G.rules[0]? = some rl0 ∧ G.rules[it.r]? = some rl ∧ it.d ≤ rl.rhs.length ∧
    γ = δ ++ rl.rhs.take it.d ∧ Terminals G z ∧ Derives G [rl0.lhs] (δ ++ [rl.lhs] ++ z)

theorem take_succ_of_get {l : List Sym} {d : Nat} {X : Sym} (h : l[d]? = some X) :
    l.take (d+1) = l.take d ++ [X] := by
  rw [List.take_add_one, h]; rfl

theorem valid_goto (G : Grammar) (γ : List Sym) (r d : Nat) (rl : Rule) (X : Sym)
    (hr : G.rules[r]? = some rl) (hx : rl.rhs[d]? = some X) (h : Valid G γ ⟨r, d⟩) :
    Valid G (γ ++ [X]) ⟨r, d+1⟩ := by
  obtain ⟨rl0, rl', δ, z, h0, hr', hd, hγ, hz, hder⟩ := h
  simp only at hr' hd hγ
  rw [hr] at hr'; cases hr'
  have hlt : d < rl.rhs.length := (List.getElem?_eq_some_iff.mp hx).1
  refine ⟨rl0, rl, δ, z, h0, hr, hlt, ?_, hz, hder⟩
  simp only [take_succ_of_get hx, hγ, List.append_assoc]

/-- `A → α·β` valid for `γ` and `β ⇒* y` terminal: `γ y z` is a sentential form, for the `z` of
    the item's validity (the step shared by `valid_clos` and `valid_viable`) -/
theorem Valid.derive_rest {G : Grammar} {γ : List Sym} {it : Item} {rl0 rl : Rule} {δ z y : List Sym}
    (hr : G.rules[it.r]? = some rl) (hγ : γ = δ ++ rl.rhs.take it.d)
    (hder : Derives G [rl0.lhs] (δ ++ [rl.lhs] ++ z)) (hdy : Derives G (rl.rhs.drop it.d) y) :
    Derives G [rl0.lhs] (γ ++ y ++ z) := by
  have e1 : Derives G (δ ++ [rl.lhs] ++ z) (δ ++ rl.rhs ++ z) := .step δ z it.r rl _ hr (.refl _)
  have e2 : δ ++ rl.rhs ++ z = γ ++ rl.rhs.drop it.d ++ z := by
    rw [hγ, List.append_assoc δ (rl.rhs.take it.d), List.take_append_drop]
  exact hder.trans (e1.trans (e2 ▸ hdy.ctx γ z))

theorem valid_clos (G : Grammar) (hP : RhsProductive G) (γ : List Sym) (r d r' : Nat) (rl rl' : Rule)
    (hr : G.rules[r]? = some rl) (hr' : G.rules[r']? = some rl') (hx : rl.rhs[d]? = some rl'.lhs)
    (h : Valid G γ ⟨r, d⟩) : Valid G γ ⟨r', 0⟩ := by
  obtain ⟨rl0, rl1, δ, z, h0, hr1, hd, hγ, hz, hder⟩ := h
  cases hr.symm.trans hr1
  obtain ⟨y, hy, hdy⟩ := hP r rl hr (d+1)
  refine ⟨rl0, rl', γ, y ++ z, h0, hr', Nat.zero_le _, by simp, hy.append hz, ?_⟩
  -- S' ⇒* δ A z ⇒ γ B (drop (d+1)) z ⇒* γ B y z
  have e : rl.rhs.drop d = [rl'.lhs] ++ rl.rhs.drop (d+1) := by
    rw [List.drop_eq_getElem?_toList_append, hx]; rfl
  have hB : Derives G (rl.rhs.drop d) ([rl'.lhs] ++ y) := e ▸ (Derives.refl _).append hdy
  simpa only [List.append_assoc] using Valid.derive_rest (it := ⟨r, d⟩) hr hγ hder hB

theorem Cl0_valid {G : Grammar} (hP : RhsProductive G) {γ : List Sym} {K : Item → Prop}
    (hK : ∀ it, K it → Valid G γ it) : ∀ it, Cl0 G K it → Valid G γ it := by
  intro it h
  induction h with
  | base it hk => exact hK it hk
  | step r d r' rl rl' _ hr hr' hx ih => exact valid_clos G hP _ r d r' rl rl' hr hr' hx ih

theorem St0_valid' (G : Grammar) (hP : RhsProductive G) (rl0 : Rule) (h0 : G.rules[0]? = some rl0) :
    ∀ (γ : List Sym) (it : Item), St0 G γ it → Valid G γ.reverse it
  | [] => Cl0_valid hP fun it hk =>
      hk ▸ ⟨rl0, rl0, [], [], h0, h0, Nat.zero_le _, rfl, nofun, .refl _⟩
  | X :: γ => Cl0_valid hP fun it hk => by
      obtain ⟨r, d, rl, rfl, hr, hx, hs⟩ := hk
      rw [List.reverse_cons]
      exact valid_goto G γ.reverse r d rl X hr hx (St0_valid' G hP rl0 h0 γ _ hs)

theorem St0_valid (G : Grammar) (hP : AllProductive G) (rl0 : Rule) (h0 : G.rules[0]? = some rl0) :
    ∀ (γ : List Sym) (it : Item), St0 G γ it → Valid G γ.reverse it :=
  St0_valid' G hP.rhs rl0 h0

theorem valid_viable' (G : Grammar) (hP : RhsProductive G) (γ : List Sym) (it : Item)
    (h : Valid G γ it) : ∃ rl0 z, G.rules[0]? = some rl0 ∧ Terminals G z ∧ Derives G [rl0.lhs] (γ ++ z) := by
  obtain ⟨rl0, rl, δ, z, h0, hr, hd, hγ, hz, hder⟩ := h
  obtain ⟨y, hy, hdy⟩ := hP it.r rl hr it.d
  exact ⟨rl0, y ++ z, h0, hy.append hz, by
    simpa only [List.append_assoc] using Valid.derive_rest hr hγ hder hdy⟩

theorem valid_viable (G : Grammar) (hP : AllProductive G) (γ : List Sym) (it : Item)
    (h : Valid G γ it) : ∃ rl0 z, G.rules[0]? = some rl0 ∧ Terminals G z ∧ Derives G [rl0.lhs] (γ ++ z) :=
  valid_viable' G hP.rhs γ it h

end Y
