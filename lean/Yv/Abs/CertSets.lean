import Yv.Abs.Lalr
/-! From the Bool certificates on candidate nullable/FIRST sets (`setsClosed`) and on a lookahead table
    (`laClosed`) to the Prop-level facts that the completeness proof (`Proofs/DComplete`) and the lookahead oracle
    (`Proofs/LAOracleFacts`) use: `firstOf_sets`, `laClosed_item`, `LA_in_table`. -/
namespace Y

/-- candidate nullable / first sets, as data -/
structure Sets where
  nullable : Sym → Bool
  first : Sym → List Sym

def nullableSeq (S : Sets) (γ : List Sym) : Bool := γ.all S.nullable

def firstSeq (S : Sets) : List Sym → List Sym
  | [] => []
  | x :: xs => S.first x ++ (if S.nullable x then firstSeq S xs else [])

/-- Bool check: the sets are closed under the grammar's rules and contain every terminal -/
def setsClosed (G : Grammar) (S : Sets) : Bool :=
  (G.rules.all fun rl =>
    (!(nullableSeq S rl.rhs) || S.nullable rl.lhs) &&
    (firstSeq S rl.rhs).all fun a => (S.first rl.lhs).contains a) &&
  ((List.range (G.nT + 1)).all fun t => !(G.isT t) || ((S.first t).contains t && !(S.nullable t)))

theorem isT_lt {G : Grammar} {t : Sym} (h : G.isT t = true) : t < G.nT + 1 := by
  unfold Grammar.isT at h
  have h2 : t ≤ G.nT := by
    have := (Bool.and_eq_true _ _ ▸ h : _ ∧ _).2
    exact of_decide_eq_true this
  exact Nat.lt_succ_of_le h2

theorem closed_rule {G : Grammar} {S : Sets} (hc : setsClosed G S = true) {r : Nat} {rl : Rule}
    (hr : G.rules[r]? = some rl) :
    (nullableSeq S rl.rhs = true → S.nullable rl.lhs = true) ∧
    (∀ a ∈ firstSeq S rl.rhs, a ∈ S.first rl.lhs) := by
  simp only [setsClosed, Bool.and_eq_true, List.all_eq_true, Bool.or_eq_true, Bool.not_eq_true',
    List.contains_eq_mem, decide_eq_true_eq] at hc
  obtain ⟨h1, h2⟩ := hc.1 rl (List.mem_of_getElem? hr)
  exact ⟨fun hn => h1.resolve_left (by simp [hn]), h2⟩

theorem closed_term {G : Grammar} {S : Sets} (hc : setsClosed G S = true) {t : Sym} (ht : G.isT t = true) :
    t ∈ S.first t ∧ S.nullable t = false := by
  simp only [setsClosed, Bool.and_eq_true, List.all_eq_true] at hc
  have := hc.2 t (List.mem_range.mpr (isT_lt ht))
  simp only [ht, Bool.not_true, Bool.false_or, Bool.and_eq_true, Bool.not_eq_true'] at this
  exact ⟨by simpa using this.1, this.2⟩

/-- a set of symbols that is closed under the rules contains every symbol of a sequence that derives the
    empty string -/
theorem GenL.nil_mem {G : Grammar} {N : Sym → Prop}
    (hN : ∀ (r : Nat) (rl : Rule), G.rules[r]? = some rl → (∀ x ∈ rl.rhs, N x) → N rl.lhs)
    {γ w : List Sym}
    (h : GenL G γ w) : w = [] → ∀ x ∈ γ, N x := by
  induction h with
  | nil => exact fun _ x hx => nomatch hx
  | tm t γ v _ _ _ => exact fun hw => nomatch hw
  | nt r rl γ u v hr _ _ ih1 ih2 =>
    intro hw x hx
    obtain ⟨hu, hv⟩ := List.append_eq_nil_iff.mp hw
    rcases List.mem_cons.mp hx with rfl | hx
    · exact hN r rl hr (ih1 hu)
    · exact ih2 hv x hx

/-- closed candidate sets contain the declarative nullable facts (and the FIRST facts: `firstOf_sets`) -/
theorem gen_nullable {G : Grammar} {S : Sets} (hc : setsClosed G S = true) {γ : List Sym}
    (h : GenL G γ []) : nullableSeq S γ = true :=
  List.all_eq_true.mpr (h.nil_mem (N := fun x => S.nullable x = true)
    (fun _ _ hr hx => (closed_rule hc hr).1 (List.all_eq_true.mpr hx)) rfl)

theorem firstOf_sets (G : Grammar) (S : Sets) (hc : setsClosed G S = true) (γ : List Sym) (a : Sym)
    (h : FirstOf G γ a) : a ∈ firstSeq S γ := by
  obtain ⟨u, hu⟩ := h
  generalize hw : a :: u = w at hu
  induction hu generalizing a u with
  | nil => cases hw
  | tm t γ v ht _ _ =>
    cases hw
    exact List.mem_append_left _ (closed_term hc ht).1
  | nt r rl γ u' v hr h1 _ ih1 ih2 =>
    simp only [firstSeq, List.mem_append]
    cases u' with
    | nil =>
      have hn := (closed_rule hc hr).1 (gen_nullable hc h1)
      exact Or.inr (by simpa [hn] using ih2 a u hw)
    | cons x xs =>
      cases hw
      exact Or.inl ((closed_rule hc hr).2 _ (ih1 _ _ rfl))

/-- automaton and candidate lookahead table, as data -/
structure LAData where
  n : Nat
  items : Nat → List Item
  goto : Nat → Sym → Option Nat
  la : Nat → Item → List Sym

/-- Bool check: item sets contain the start item and are closed under closure and goto;
    the lookahead table contains `$` on the start item and is closed under the propagation rules -/
def laClosed (G : Grammar) (S : Sets) (D : LAData) : Bool :=
  (D.items 0).contains ⟨0, 0⟩ && (D.la 0 ⟨0, 0⟩).contains 1 &&
  (List.range D.n).all fun q =>
    (D.items q).all fun it =>
      match G.rules[it.r]? with
      | none => true
      | some rl =>
        match rl.rhs[it.d]? with
        | none => true
        | some x =>
          -- goto
          (match D.goto q x with
           | none => true
           | some p => p < D.n && (D.items p).contains ⟨it.r, it.d + 1⟩ &&
               (D.la q it).all fun b => (D.la p ⟨it.r, it.d + 1⟩).contains b) &&
          -- closure
          ((List.range G.rules.length).all fun r' =>
            match G.rules[r']? with
            | none => true
            | some rl' =>
              !(rl'.lhs == x) ||
                ((D.items q).contains ⟨r', 0⟩ &&
                 (D.la q it).all fun b =>
                   (firstSeq S (rl.rhs.drop (it.d + 1) ++ [b])).all fun a => (D.la q ⟨r', 0⟩).contains a))

theorem laClosed_item {G : Grammar} {S : Sets} {D : LAData} (hc : laClosed G S D = true)
    {q : Nat} (hq : q < D.n) {it : Item} (hit : it ∈ D.items q) {rl : Rule} {x : Sym}
    (hr : G.rules[it.r]? = some rl) (hx : rl.rhs[it.d]? = some x) :
    (∀ p, D.goto q x = some p → p < D.n ∧ ⟨it.r, it.d + 1⟩ ∈ D.items p ∧
        ∀ b ∈ D.la q it, b ∈ D.la p ⟨it.r, it.d + 1⟩) ∧
    (∀ r' rl', G.rules[r']? = some rl' → rl'.lhs = x → ⟨r', 0⟩ ∈ D.items q ∧
        ∀ b ∈ D.la q it, ∀ a ∈ firstSeq S (rl.rhs.drop (it.d + 1) ++ [b]), a ∈ D.la q ⟨r', 0⟩) := by
  simp only [laClosed, Bool.and_eq_true, List.all_eq_true] at hc
  have h := hc.2 q (List.mem_range.mpr hq) it hit
  simp only [hr, hx, Bool.and_eq_true, List.all_eq_true] at h
  refine ⟨fun p hp => ?_, fun r' rl' hr' hl => ?_⟩
  · have h1 := h.1
    simp only [hp, Bool.and_eq_true, List.all_eq_true, decide_eq_true_eq] at h1
    exact ⟨h1.1.1, by simpa using h1.1.2, fun b hb => by simpa using h1.2 b hb⟩
  · have hlt : r' < G.rules.length := (List.getElem?_eq_some_iff.mp hr').1
    have h2 := h.2 r' (List.mem_range.mpr hlt)
    simp only [hr', hl, beq_self_eq_true, Bool.not_true, Bool.false_or, Bool.and_eq_true,
      List.all_eq_true] at h2
    exact ⟨by simpa using h2.1, fun b hb a ha => by simpa using h2.2 b hb a ha⟩

/-- C03/C02 bridge: a table that passes the Bool checks contains every LALR(1) fact -/
theorem LA_in_table (G : Grammar) (S : Sets) (D : LAData) (hs : setsClosed G S = true)
    (hc : laClosed G S D = true) (hn : 0 < D.n) :
    ∀ q it a, LA G D.goto q it a → q < D.n ∧ it ∈ D.items q ∧ a ∈ D.la q it := by
  intro q it a h
  induction h with
  | init =>
    simp only [laClosed, Bool.and_eq_true] at hc
    exact ⟨hn, by simpa using hc.1.1, by simpa using hc.1.2⟩
  | clos q r d b r' a _ hstep ih =>
    obtain ⟨hq, hit, hb⟩ := ih
    obtain ⟨rl, rl', hr, hr', hx, hfirst⟩ := hstep
    have := (laClosed_item hc hq hit (it := ⟨r, d⟩) hr hx).2 r' rl' hr' rfl
    exact ⟨hq, this.1, this.2 b hb a (firstOf_sets G S hs _ a hfirst)⟩
  | goto q r d b rl X p _ hr hx hg ih =>
    obtain ⟨hq, hit, hb⟩ := ih
    have := (laClosed_item hc hq hit (it := ⟨r, d⟩) hr hx).1 p hg
    exact ⟨this.1, this.2.1, this.2.2 b hb⟩

end Y
